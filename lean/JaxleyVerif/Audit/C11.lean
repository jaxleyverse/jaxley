/- GENERATED by tools/mkaudit.py -/
import JaxleyVerif.Props.C11

#print axioms JaxleyVerif.Props.C11.atNodes_ok
#print axioms JaxleyVerif.Props.C11.atNodes_eq_filter
#print axioms JaxleyVerif.Props.C11.atNodes_all
#print axioms JaxleyVerif.Props.C11.atNodes_sublist
#print axioms JaxleyVerif.Props.C11.mem_distinct
#print axioms JaxleyVerif.Props.C11.nodup_distinct
#print axioms JaxleyVerif.Props.C11.denseRank_strictMono
#print axioms JaxleyVerif.Props.C11.denseRank_lt
#print axioms JaxleyVerif.Props.C11.denseRank_inj
#print axioms JaxleyVerif.Props.C11.denseRank_onto
#print axioms JaxleyVerif.Props.C11.local_eq_iff_global_eq
#print axioms JaxleyVerif.Props.C11.int_eq_singleton
#print axioms JaxleyVerif.Props.C11.range_eq_list
#print axioms JaxleyVerif.Props.C11.insertSorted_eq_ops
#print axioms JaxleyVerif.Props.C11.mem_sortedDistinct
#print axioms JaxleyVerif.Props.C11.edges_in_view_iff
#print axioms JaxleyVerif.Props.C11.getItem_eq_methods
#print axioms JaxleyVerif.Props.C11.iter_eq_methods
#print axioms JaxleyVerif.Props.C11.select_nodes_ok
#print axioms JaxleyVerif.Props.C11.channelView_exact
#print axioms JaxleyVerif.Props.C11.channelView_absent_counterexample
