/- GENERATED by tools/mkaudit.py -/
import JaxleyVerif.Props.C20

#print axioms JaxleyVerif.Props.C20.length_flatMap_block
#print axioms JaxleyVerif.Props.C20.getElem?_flatMap_block
#print axioms JaxleyVerif.Props.C20.repeatEach_length
#print axioms JaxleyVerif.Props.C20.transposeRavel_length
#print axioms JaxleyVerif.Props.C20.repeatEach_get
#print axioms JaxleyVerif.Props.C20.transposeRavel_get
#print axioms JaxleyVerif.Props.C20.fullyConnect_pairs
#print axioms JaxleyVerif.Props.C20.fullyConnect_length
#print axioms JaxleyVerif.Props.C20.whereTrue_spec
#print axioms JaxleyVerif.Props.C20.whereTrue_nodup
#print axioms JaxleyVerif.Props.C20.matrixConnect_length
#print axioms JaxleyVerif.Props.C20.insertByFst_perm
#print axioms JaxleyVerif.Props.C20.sortByFst_perm
#print axioms JaxleyVerif.Props.C20.sparseConnect_length
#print axioms JaxleyVerif.Props.C20.sparseConnect_pre_sites
