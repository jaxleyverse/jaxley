/- GENERATED by tools/mkaudit.py -/
import JaxleyVerif.Props.C08
import JaxleyVerif.Props.C08_Sim

#print axioms JaxleyVerif.Props.C08.recs_order_and_time
#print axioms JaxleyVerif.Props.C08.dedup_mem
#print axioms JaxleyVerif.Props.C08.dedup_nodup
#print axioms JaxleyVerif.Props.C08.dedup_prefix
#print axioms JaxleyVerif.Props.C08.stim_timing
#print axioms JaxleyVerif.Props.C08.later_samples_do_not_matter
#print axioms JaxleyVerif.Props.C08.stims_add
#print axioms JaxleyVerif.Props.C08.scatterAdd_get
#print axioms JaxleyVerif.Props.C08.scatterAdd_other
#print axioms JaxleyVerif.Props.C08.setAt_eq
#print axioms JaxleyVerif.Props.C08.setAt_length
#print axioms JaxleyVerif.Props.C08.setAt_cons
#print axioms JaxleyVerif.Props.C08.setAt_get_other
#print axioms JaxleyVerif.Props.C08.setAt_get
#print axioms JaxleyVerif.Props.C08.setArr_key
#print axioms JaxleyVerif.Props.C08.getArr_setArr_eq
#print axioms JaxleyVerif.Props.C08.getArr_setArr
#print axioms JaxleyVerif.Props.C08.applyClamps_length
#print axioms JaxleyVerif.Props.C08.applyClamps_of_no_hit
#print axioms JaxleyVerif.Props.C08.applyClamps_last
#print axioms JaxleyVerif.Props.C08.getArr_clampV
#print axioms JaxleyVerif.Props.C08.getArr_clampStates
#print axioms JaxleyVerif.Props.C08.getArr_step
#print axioms JaxleyVerif.Props.C08.step_clamp_holds
#print axioms JaxleyVerif.Props.C08.clamp_v_holds
#print axioms JaxleyVerif.Props.C08.tmax_pad_truncate
#print axioms JaxleyVerif.Props.C08.fitToTmax_get
#print axioms JaxleyVerif.Props.C08.step_current_shape
#print axioms JaxleyVerif.Props.Sim.getArr_setArr_ne
#print axioms JaxleyVerif.Props.Sim.clampV_v_length
#print axioms JaxleyVerif.Props.Sim.clampV_no_v
#print axioms JaxleyVerif.Props.Sim.clampStates_only_i
#print axioms JaxleyVerif.Props.Sim.step_stim_only
#print axioms JaxleyVerif.Props.Sim.clampStates_length
#print axioms JaxleyVerif.Props.Sim.getArr_foldl_setArr
#print axioms JaxleyVerif.Props.Sim.fitExternals_eq
#print axioms JaxleyVerif.Props.Sim.fitExternals_length
#print axioms JaxleyVerif.Props.Sim.traces_getD
#print axioms JaxleyVerif.Props.Sim.sim_integrate_some_iff
#print axioms JaxleyVerif.Props.Sim.sim_integrate_inv
#print axioms JaxleyVerif.Props.Sim.sim_integrate_traces
#print axioms JaxleyVerif.Props.Sim.sim_integrate_shape
#print axioms JaxleyVerif.Props.Sim.record_entry
#print axioms JaxleyVerif.Props.Sim.record_length
#print axioms JaxleyVerif.Props.Sim.sim_recordings_are_states
#print axioms JaxleyVerif.Props.Sim.stateAfter_zero
#print axioms JaxleyVerif.Props.Sim.sim_recording_value
#print axioms JaxleyVerif.Props.Sim.sim_inputs_timing
#print axioms JaxleyVerif.Props.Sim.sim_step_consumes
#print axioms JaxleyVerif.Props.Sim.sim_prefix
#print axioms JaxleyVerif.Props.Sim.sim_integrate_split
#print axioms JaxleyVerif.Props.Sim.sim_returned_state
#print axioms JaxleyVerif.Props.Sim.sim_checkpoint_invariant
#print axioms JaxleyVerif.Props.Sim.sim_step_eq
#print axioms JaxleyVerif.Props.Sim.localInd_of_not_edge
#print axioms JaxleyVerif.Props.Sim.sim_clamp_holds
#print axioms JaxleyVerif.Props.Sim.sim_clamp_v_holds
#print axioms JaxleyVerif.Props.Sim.sim_state_clamp_after_mechanisms
#print axioms JaxleyVerif.Props.Sim.sim_solve_cellwise
#print axioms JaxleyVerif.Props.Sim.cellIn_congr
#print axioms JaxleyVerif.Props.Sim.sim_cell_block_independent
#print axioms JaxleyVerif.Props.Sim.exM_accepts
