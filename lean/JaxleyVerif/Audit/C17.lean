/- GENERATED by tools/mkaudit.py -/
import JaxleyVerif.Props.C17

#print axioms JaxleyVerif.Props.C17.sigF_eq
#print axioms JaxleyVerif.Props.C17.sigI_eq
#print axioms JaxleyVerif.Props.C17.sigI_affine
#print axioms JaxleyVerif.Props.C17.sigmoid_bounds
#print axioms JaxleyVerif.Props.C17.sigmoid_mono
#print axioms JaxleyVerif.Props.C17.sigmoid_roundtrip
#print axioms JaxleyVerif.Props.C17.sigmoid_roundtrip_partial
#print axioms JaxleyVerif.Props.C17.sigmoid_strict_mono
#print axioms JaxleyVerif.Props.C17.sigmoid_roundtrip_inv_partial
#print axioms JaxleyVerif.Props.C17.sigmoid_roundtrip_counterexample
#print axioms JaxleyVerif.Props.C17.spF_eq
#print axioms JaxleyVerif.Props.C17.spI_eq
#print axioms JaxleyVerif.Props.C17.softplus_bounds
#print axioms JaxleyVerif.Props.C17.softplus_mono
#print axioms JaxleyVerif.Props.C17.softplus_strict_mono
#print axioms JaxleyVerif.Props.C17.softplus_roundtrip_partial
#print axioms JaxleyVerif.Props.C17.softplus_roundtrip_inv
#print axioms JaxleyVerif.Props.C17.softplus_roundtrip_inv_partial
#print axioms JaxleyVerif.Props.C17.softplus_roundtrip_counterexample
#print axioms JaxleyVerif.Props.C17.nspF_eq
#print axioms JaxleyVerif.Props.C17.nspI_eq
#print axioms JaxleyVerif.Props.C17.negsoftplus_bounds
#print axioms JaxleyVerif.Props.C17.negsoftplus_mono
#print axioms JaxleyVerif.Props.C17.negsoftplus_roundtrip_partial
#print axioms JaxleyVerif.Props.C17.negsoftplus_roundtrip_inv_partial
#print axioms JaxleyVerif.Props.C17.affine_roundtrip
#print axioms JaxleyVerif.Props.C17.affine_roundtrip_inv
#print axioms JaxleyVerif.Props.C17.affine_mono
#print axioms JaxleyVerif.Props.C17.chainFwd_concat
#print axioms JaxleyVerif.Props.C17.chainInv_concat
#print axioms JaxleyVerif.Props.C17.chain_roundtrip
#print axioms JaxleyVerif.Props.C17.masked_roundtrip
#print axioms JaxleyVerif.Props.C17.masked_frame
#print axioms JaxleyVerif.Props.C17.paramtransform_pointwise
#print axioms JaxleyVerif.Props.C17.paramtransform_roundtrip
