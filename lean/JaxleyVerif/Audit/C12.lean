/- GENERATED by tools/mkaudit.py -/
import JaxleyVerif.Props.C12
import JaxleyVerif.Props.C12_Sim

#print axioms JaxleyVerif.Props.C12.sumW_inl
#print axioms JaxleyVerif.Props.C12.row_sum_inl
#print axioms JaxleyVerif.Props.C12.row_sum_inr
#print axioms JaxleyVerif.Props.C12.block_diagonal_independent
#print axioms JaxleyVerif.Props.C12.permutation_equivariant
#print axioms JaxleyVerif.Props.C12.permuted_solution
#print axioms JaxleyVerif.Props.C12.concat_preserves_rows
#print axioms JaxleyVerif.Props.Sim.Row_setArr
#print axioms JaxleyVerif.Props.Sim.Row_setEntry_self
#print axioms JaxleyVerif.Props.Sim.Row_setEntry_ne
#print axioms JaxleyVerif.Props.Sim.accView_modify_ne
#print axioms JaxleyVerif.Props.Sim.accView_modify_self
#print axioms JaxleyVerif.Props.Sim.foldl_view₂
#print axioms JaxleyVerif.Props.Sim.mem_members
#print axioms JaxleyVerif.Props.Sim.members_foldl_view₂
#print axioms JaxleyVerif.Props.Sim.rowData_eq_iff
#print axioms JaxleyVerif.Props.Sim.rowData_congr
#print axioms JaxleyVerif.Props.Sim.stateAt_of_Row
#print axioms JaxleyVerif.Props.Sim.Row_stepChannelsState
#print axioms JaxleyVerif.Props.Sim.currentNames_congr
#print axioms JaxleyVerif.Props.Sim.channelCurrents_row_of_acc
#print axioms JaxleyVerif.Props.Sim.channelCurrents_row
#print axioms JaxleyVerif.Props.Sim.sim_mech_rowwise_states
#print axioms JaxleyVerif.Props.Sim.sim_mech_rowwise_terms
#print axioms JaxleyVerif.Props.Sim.keyGm_ne_keyKm
#print axioms JaxleyVerif.Props.Sim.sim_step_state
#print axioms JaxleyVerif.Props.Sim.sim_step_v_blocks
#print axioms JaxleyVerif.Props.Sim.mech_row
#print axioms JaxleyVerif.Props.Sim.iExt_row
#print axioms JaxleyVerif.Props.Sim.sim_step_cell_independent
#print axioms JaxleyVerif.Props.Sim.solveCell_length
#print axioms JaxleyVerif.Props.Sim.stepFwd_cellIn_isSome
#print axioms JaxleyVerif.Props.Sim.block_length
#print axioms JaxleyVerif.Props.Sim.flatMap_range_length
#print axioms JaxleyVerif.Props.Sim.flatMap_range_get
#print axioms JaxleyVerif.Props.Sim.cellOffsets_of_ok
#print axioms JaxleyVerif.Props.Sim.v_row_block
#print axioms JaxleyVerif.Props.Sim.CellAgree.row_lt
#print axioms JaxleyVerif.Props.Sim.CellAgree.row_lt_snd
#print axioms JaxleyVerif.Props.Sim.sim_step_rows_cell_independent
#print axioms JaxleyVerif.Props.Sim.sim_run_cell_independent
#print axioms JaxleyVerif.Props.Sim.sim_init_rows_cell_independent
#print axioms JaxleyVerif.Props.Sim.sim_stateAfter_cell_independent
#print axioms JaxleyVerif.Props.Sim.record_of_row
#print axioms JaxleyVerif.Props.Sim.sim_record_cell_independent
