/- GENERATED by tools/mkaudit.py -/
import JaxleyVerif.Props.C05
import JaxleyVerif.Props.C05_Kernels

#print axioms JaxleyVerif.Props.C05.add_re
#print axioms JaxleyVerif.Props.C05.add_eps
#print axioms JaxleyVerif.Props.C05.sub_re
#print axioms JaxleyVerif.Props.C05.sub_eps
#print axioms JaxleyVerif.Props.C05.neg_re
#print axioms JaxleyVerif.Props.C05.neg_eps
#print axioms JaxleyVerif.Props.C05.mul_re
#print axioms JaxleyVerif.Props.C05.mul_eps
#print axioms JaxleyVerif.Props.C05.div_re
#print axioms JaxleyVerif.Props.C05.div_eps
#print axioms JaxleyVerif.Props.C05.exp_re
#print axioms JaxleyVerif.Props.C05.exp_eps
#print axioms JaxleyVerif.Props.C05.log_re
#print axioms JaxleyVerif.Props.C05.log_eps
#print axioms JaxleyVerif.Props.C05.tanh_re
#print axioms JaxleyVerif.Props.C05.tanh_eps
#print axioms JaxleyVerif.Props.C05.evalDual_re
#print axioms JaxleyVerif.Props.C05.hasDerivAt_tanh
#print axioms JaxleyVerif.Props.C05.dual_eval_is_derivative
#print axioms JaxleyVerif.Props.C05.evalDual_eps_linear
#print axioms JaxleyVerif.Props.C05.evalDual_eps_eq_deriv
#print axioms JaxleyVerif.Props.C05.solve_derivative
#print axioms JaxleyVerif.Props.C05.dual_div_is_solve
#print axioms JaxleyVerif.Props.C05.dual_div_solves_tangent_eq
#print axioms JaxleyVerif.Props.C05.grad_shared_eq_sum
#print axioms JaxleyVerif.Props.C05.grad_shared_eq_sum_fin
#print axioms JaxleyVerif.Props.C05.eval_rateEx
#print axioms JaxleyVerif.Props.C05.defined_rateEx_iff
#print axioms JaxleyVerif.Props.C05.rateEx_dual_eps
#print axioms JaxleyVerif.Props.C05.rateEx_hasDerivAt
#print axioms JaxleyVerif.Props.C05.save_exp_dual
#print axioms JaxleyVerif.Props.C05.evalClip_eq_eval
#print axioms JaxleyVerif.Props.C05.evalClip_eq_evalDual
#print axioms JaxleyVerif.Props.C05.eventually_unclipped
#print axioms JaxleyVerif.Props.C05.evalClip_hasDerivAt
#print axioms JaxleyVerif.Props.C05.gate_fst_hasDerivAt
#print axioms JaxleyVerif.Props.C05.gate_snd_hasDerivAt
#print axioms JaxleyVerif.Props.C05.defined_eVtrap
#print axioms JaxleyVerif.Props.C05.defined_eEfun
#print axioms JaxleyVerif.Props.C05.unclipped_eVtrap
#print axioms JaxleyVerif.Props.C05.unclipped_eEfun
#print axioms JaxleyVerif.Props.C05.HH_m_gate_real
#print axioms JaxleyVerif.Props.C05.HH_m_gate_dual
#print axioms JaxleyVerif.Props.C05.HH_m_alpha_deriv
#print axioms JaxleyVerif.Props.C05.HH_m_beta_deriv
#print axioms JaxleyVerif.Props.C05.HH_h_gate_real
#print axioms JaxleyVerif.Props.C05.HH_h_gate_dual
#print axioms JaxleyVerif.Props.C05.HH_h_alpha_deriv
#print axioms JaxleyVerif.Props.C05.HH_h_beta_deriv
#print axioms JaxleyVerif.Props.C05.HH_n_gate_real
#print axioms JaxleyVerif.Props.C05.HH_n_gate_dual
#print axioms JaxleyVerif.Props.C05.HH_n_alpha_deriv
#print axioms JaxleyVerif.Props.C05.HH_n_beta_deriv
#print axioms JaxleyVerif.Props.C05.K_n_gate_real
#print axioms JaxleyVerif.Props.C05.K_n_gate_dual
#print axioms JaxleyVerif.Props.C05.K_n_alpha_deriv
#print axioms JaxleyVerif.Props.C05.K_n_beta_deriv
#print axioms JaxleyVerif.Props.C05.Na_m_gate_real
#print axioms JaxleyVerif.Props.C05.Na_m_gate_dual
#print axioms JaxleyVerif.Props.C05.Na_m_alpha_deriv
#print axioms JaxleyVerif.Props.C05.Na_m_beta_deriv
#print axioms JaxleyVerif.Props.C05.Na_h_gate_real
#print axioms JaxleyVerif.Props.C05.Na_h_gate_dual
#print axioms JaxleyVerif.Props.C05.Na_h_alpha_deriv
#print axioms JaxleyVerif.Props.C05.Na_h_beta_deriv
#print axioms JaxleyVerif.Props.C05.CaL_q_gate_real
#print axioms JaxleyVerif.Props.C05.CaL_q_gate_dual
#print axioms JaxleyVerif.Props.C05.CaL_q_alpha_deriv
#print axioms JaxleyVerif.Props.C05.CaL_q_beta_deriv
#print axioms JaxleyVerif.Props.C05.CaL_r_gate_real
#print axioms JaxleyVerif.Props.C05.CaL_r_gate_dual
#print axioms JaxleyVerif.Props.C05.CaL_r_alpha_deriv
#print axioms JaxleyVerif.Props.C05.CaL_r_beta_deriv
#print axioms JaxleyVerif.Props.C05.Km_p_gate_real
#print axioms JaxleyVerif.Props.C05.Km_p_gate_dual
#print axioms JaxleyVerif.Props.C05.Km_p_inf_deriv
#print axioms JaxleyVerif.Props.C05.Km_p_tau_deriv
#print axioms JaxleyVerif.Props.C05.CaT_u_gate_real
#print axioms JaxleyVerif.Props.C05.CaT_u_gate_dual
#print axioms JaxleyVerif.Props.C05.CaT_u_inf_deriv
#print axioms JaxleyVerif.Props.C05.CaT_u_tau_deriv
