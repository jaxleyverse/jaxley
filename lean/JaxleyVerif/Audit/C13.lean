/- GENERATED by tools/mkaudit.py -/
import JaxleyVerif.Props.C13

#print axioms JaxleyVerif.Props.C13.sumLen_eq_sum
#print axioms JaxleyVerif.Props.C13.sumLen_nil
#print axioms JaxleyVerif.Props.C13.sumLen_append
#print axioms JaxleyVerif.Props.C13.filter_eq_replace
#print axioms JaxleyVerif.Props.C13.filter_ne_replace
#print axioms JaxleyVerif.Props.C13.setNcomp_rows
#print axioms JaxleyVerif.Props.C13.setNcomp_groups
#print axioms JaxleyVerif.Props.C13.rows_decomp
#print axioms JaxleyVerif.Props.C13.oldOf_branch
#print axioms JaxleyVerif.Props.C13.newOf_branch
#print axioms JaxleyVerif.Props.C13.newOf_length
#print axioms JaxleyVerif.Props.C13.set_ncomp_length
#print axioms JaxleyVerif.Props.C13.set_ncomp_length_table
#print axioms JaxleyVerif.Props.C13.set_ncomp_total_length
#print axioms JaxleyVerif.Props.C13.set_ncomp_branch_length
#print axioms JaxleyVerif.Props.C13.set_ncomp_frame
#print axioms JaxleyVerif.Props.C13.mem_remapOf
#print axioms JaxleyVerif.Props.C13.Remaps.exists
#print axioms JaxleyVerif.Props.C13.getElem?_append_add
#print axioms JaxleyVerif.Props.C13.Remaps.branch
#print axioms JaxleyVerif.Props.C13.mem_branchesOf
#print axioms JaxleyVerif.Props.C13.branchesOf_remap
#print axioms JaxleyVerif.Props.C13.set_ncomp_group
#print axioms JaxleyVerif.Props.C13.set_ncomp_groups_length
#print axioms JaxleyVerif.Props.C13.span_append
#print axioms JaxleyVerif.Props.C13.IsBlock.pieces
#print axioms JaxleyVerif.Props.C13.set_ncomp_frame_block
#print axioms JaxleyVerif.Props.C13.set_ncomp_rows_of_branch
#print axioms JaxleyVerif.Props.C13.set_ncomp_length_branch
#print axioms JaxleyVerif.Props.C13.set_ncomp_groups
#print axioms JaxleyVerif.Props.C13.rowsOf_length
#print axioms JaxleyVerif.Props.C13.sumLen_rowsOf
#print axioms JaxleyVerif.Props.C13.mem_rowsOf
#print axioms JaxleyVerif.Props.C13.mem_buildFrom
#print axioms JaxleyVerif.Props.C13.build_three
#print axioms JaxleyVerif.Props.C13.set_ncomp_eq_direct
