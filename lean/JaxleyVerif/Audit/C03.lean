/- GENERATED by tools/mkaudit.py -/
import JaxleyVerif.Props.C03

#print axioms JaxleyVerif.Props.C03.save_exp_eq_exp_of_le
#print axioms JaxleyVerif.Props.C03.save_exp_positive
#print axioms JaxleyVerif.Props.C03.save_exp_monotone
#print axioms JaxleyVerif.Props.C03.two_rate_gate_ok
#print axioms JaxleyVerif.Props.C03.inf_gate_ok
#print axioms JaxleyVerif.Props.C03.HH_m_defined_iff
#print axioms JaxleyVerif.Props.C03.HH_m_rates_pos
#print axioms JaxleyVerif.Props.C03.HH_h_rates_pos
#print axioms JaxleyVerif.Props.C03.HH_n_defined_iff
#print axioms JaxleyVerif.Props.C03.HH_n_rates_pos
#print axioms JaxleyVerif.Props.C03.Na_m_defined_iff
#print axioms JaxleyVerif.Props.C03.Na_m_rates_pos
#print axioms JaxleyVerif.Props.C03.Na_h_rates_pos
#print axioms JaxleyVerif.Props.C03.K_n_defined_iff
#print axioms JaxleyVerif.Props.C03.K_n_rates_pos
#print axioms JaxleyVerif.Props.C03.CaL_q_defined_iff
#print axioms JaxleyVerif.Props.C03.CaL_q_rates_pos
#print axioms JaxleyVerif.Props.C03.CaL_r_rates_pos
#print axioms JaxleyVerif.Props.C03.Km_p_gate_range
#print axioms JaxleyVerif.Props.C03.CaT_u_gate_range
#print axioms JaxleyVerif.Props.C03.HH_update_states_ok
#print axioms JaxleyVerif.Props.C03.Na_update_states_ok
#print axioms JaxleyVerif.Props.C03.K_update_states_ok
#print axioms JaxleyVerif.Props.C03.CaL_update_states_ok
#print axioms JaxleyVerif.Props.C03.Km_update_states_ok
#print axioms JaxleyVerif.Props.C03.CaT_update_states_ok
#print axioms JaxleyVerif.Props.C03.Leak_update_states_ok
#print axioms JaxleyVerif.Props.C03.synSinf_mem
#print axioms JaxleyVerif.Props.C03.syn_gate_ok
#print axioms JaxleyVerif.Props.C03.Ionotropic_update_states_ok
#print axioms JaxleyVerif.Props.C03.TestSynapse_update_states_ok
#print axioms JaxleyVerif.Props.C03.HH_m_singular
#print axioms JaxleyVerif.Props.C03.HH_n_singular
#print axioms JaxleyVerif.Props.C03.Na_m_singular_alpha
#print axioms JaxleyVerif.Props.C03.Na_m_singular_beta
#print axioms JaxleyVerif.Props.C03.K_n_singular
#print axioms JaxleyVerif.Props.C03.CaL_q_singular
