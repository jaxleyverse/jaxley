/- GENERATED by tools/mkaudit.py -/
import JaxleyVerif.Props.C10

#print axioms JaxleyVerif.Props.C10.put_eq_set
#print axioms JaxleyVerif.Props.C10.putAll_length
#print axioms JaxleyVerif.Props.C10.putAll_get
#print axioms JaxleyVerif.Props.C10.scatter_cons
#print axioms JaxleyVerif.Props.C10.scatter_get
#print axioms JaxleyVerif.Props.C10.putAll_append_pad
#print axioms JaxleyVerif.Props.C10.padGroups_scatter
#print axioms JaxleyVerif.Props.C10.scatter_eq_set
#print axioms JaxleyVerif.Props.C10.scatter_length
#print axioms JaxleyVerif.Props.C10.applyPstate_length
#print axioms JaxleyVerif.Props.C10.applyPstate_snoc
#print axioms JaxleyVerif.Props.C10.applyPstate_last_wins
#print axioms JaxleyVerif.Props.C10.applyPstate_frame
