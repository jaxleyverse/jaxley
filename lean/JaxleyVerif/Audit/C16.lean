/- GENERATED by tools/mkaudit.py -/
import JaxleyVerif.Props.C16

#print axioms JaxleyVerif.Props.C16.pySlice_some
#print axioms JaxleyVerif.Props.C16.pySlice_none
#print axioms JaxleyVerif.Props.C16.pySlice_head
#print axioms JaxleyVerif.Props.C16.pySlice_mid
#print axioms JaxleyVerif.Props.C16.pySlice_tail
#print axioms JaxleyVerif.Props.C16.splitBranchEqually_eq
#print axioms JaxleyVerif.Props.C16.splitBranchEqually_length
#print axioms JaxleyVerif.Props.C16.splitBranchEqually_eq_map
#print axioms JaxleyVerif.Props.C16.splitBranchEqually_getElem?
#print axioms JaxleyVerif.Props.C16.cut_bounds
#print axioms JaxleyVerif.Props.C16.getLast?_take_drop
#print axioms JaxleyVerif.Props.C16.piece_head?
#print axioms JaxleyVerif.Props.C16.piece_getLast?
#print axioms JaxleyVerif.Props.C16.splitBranchEqually_overlap
#print axioms JaxleyVerif.Props.C16.take_chunks
#print axioms JaxleyVerif.Props.C16.splitBranchEqually_glue
#print axioms JaxleyVerif.Props.C16.piece_length
#print axioms JaxleyVerif.Props.C16.getLast?_eq_lastId
#print axioms JaxleyVerif.Props.C16.head?_eq_firstId
#print axioms JaxleyVerif.Props.C16.mem_endsAt
#print axioms JaxleyVerif.Props.C16.buildParents_eq
#print axioms JaxleyVerif.Props.C16.parentStep_spec
#print axioms JaxleyVerif.Props.C16.buildParents_spec
#print axioms JaxleyVerif.Props.C16.buildParents_connect
#print axioms JaxleyVerif.Props.C16.buildParents_root
#print axioms JaxleyVerif.Props.C16.buildParents_range
#print axioms JaxleyVerif.Props.C16.lerp_between
#print axioms JaxleyVerif.Props.C16.radius_between
#print axioms JaxleyVerif.Props.C16.radius_at_left
#print axioms JaxleyVerif.Props.C16.radius_at_right
#print axioms JaxleyVerif.Props.C16.radius_pos
#print axioms JaxleyVerif.Props.C16.clip_eq_max
#print axioms JaxleyVerif.Props.C16.clip_ge
#print axioms JaxleyVerif.Props.C16.clip_ge_self
#print axioms JaxleyVerif.Props.C16.clip_id
#print axioms JaxleyVerif.Props.C16.centre_mem
#print axioms JaxleyVerif.Props.C16.centre_lt
#print axioms JaxleyVerif.Props.C16.linspace_eq_centre
#print axioms JaxleyVerif.Props.C16.linspace_one
#print axioms JaxleyVerif.Props.C16.compLens_sum
#print axioms JaxleyVerif.Props.C16.compLens_total
#print axioms JaxleyVerif.Props.C16.compLens_length
#print axioms JaxleyVerif.Props.C16.readSwc_groups_eq
#print axioms JaxleyVerif.Props.C16.insertNat_eq
#print axioms JaxleyVerif.Props.C16.mem_insertNat
#print axioms JaxleyVerif.Props.C16.uniqueSorted_cons
#print axioms JaxleyVerif.Props.C16.mem_uniqueSorted
#print axioms JaxleyVerif.Props.C16.uniqueSorted_sorted
#print axioms JaxleyVerif.Props.C16.uniqueSorted_nodup
#print axioms JaxleyVerif.Props.C16.groupName_big
#print axioms JaxleyVerif.Props.C16.groupName_small_ne
#print axioms JaxleyVerif.Props.C16.groupName_injective
#print axioms JaxleyVerif.Props.C16.mem_groupsOf
#print axioms JaxleyVerif.Props.C16.groupsOf_mem_iff
#print axioms JaxleyVerif.Props.C16.groupsOf_own
#print axioms JaxleyVerif.Props.C16.groupsOf_not_other
#print axioms JaxleyVerif.Props.C16.groupsOf_names_nodup
#print axioms JaxleyVerif.Props.C16.groupsOf_unique
#print axioms JaxleyVerif.Props.C16.groupsOf_nonempty
#print axioms JaxleyVerif.Props.C16.readSwc_groups_partition
#print axioms JaxleyVerif.Props.C16.stableSortBy_eq
#print axioms JaxleyVerif.Props.C16.stableSortBy_perm
#print axioms JaxleyVerif.Props.C16.stableSortBy_length
#print axioms JaxleyVerif.Props.C16.mem_stableSortBy
#print axioms JaxleyVerif.Props.C16.stableSortBy_sorted
#print axioms JaxleyVerif.Props.C16.stableSortBy_stable
#print axioms JaxleyVerif.Props.C16.argsort_stable
#print axioms JaxleyVerif.Props.C16.chain_head?
#print axioms JaxleyVerif.Props.C16.isChain_cons_chain
#print axioms JaxleyVerif.Props.C16.chain_spec
#print axioms JaxleyVerif.Props.C16.chain_sameType
#print axioms JaxleyVerif.Props.C16.chain_unbranched
#print axioms JaxleyVerif.Props.C16.mem_sections
#print axioms JaxleyVerif.Props.C16.sections_ne_nil
#print axioms JaxleyVerif.Props.C16.wellFormed_spec
#print axioms JaxleyVerif.Props.C16.wellFormed_parent_nonneg
#print axioms JaxleyVerif.Props.C16.wellFormed_ids_nodup
#print axioms JaxleyVerif.Props.C16.point?_of_mem
#print axioms JaxleyVerif.Props.C16.parentOf_of_mem
#print axioms JaxleyVerif.Props.C16.parentOf_of_child
#print axioms JaxleyVerif.Props.C16.sections_parentOf
#print axioms JaxleyVerif.Props.C16.specBranches_eq
#print axioms JaxleyVerif.Props.C16.specBranches_sorted
#print axioms JaxleyVerif.Props.C16.specBranches_parentOf
