/- GENERATED by tools/mkaudit.py -/
import JaxleyVerif.Props.C09
import JaxleyVerif.Props.C09_Sim

#print axioms JaxleyVerif.Props.Sim.edgeTerms_congr
#print axioms JaxleyVerif.Props.Sim.synTerms_filter
#print axioms JaxleyVerif.Props.Sim.synTerms_none
#print axioms JaxleyVerif.Props.Sim.synTerms_congr_v
#print axioms JaxleyVerif.Props.C09.foldl_add_sub
#print axioms JaxleyVerif.Props.C09.synTerms_eq_sum
#print axioms JaxleyVerif.Props.C09.no_edge_no_terms
#print axioms JaxleyVerif.Props.C09.edgeTerms_reads_only_pre_post
#print axioms JaxleyVerif.Props.C09.secant_exact_of_affine
#print axioms JaxleyVerif.Props.C09.edge_order_invariant
#print axioms JaxleyVerif.Props.C09.zero_conductance_isolates
#print axioms JaxleyVerif.Props.Sim.synEdges_eq
#print axioms JaxleyVerif.Props.Sim.allEdges_eq
#print axioms JaxleyVerif.Props.Sim.sim_syn_terms_eq
#print axioms JaxleyVerif.Props.Sim.sim_syn_terms_local
#print axioms JaxleyVerif.Props.Sim.sim_syn_terms_none
#print axioms JaxleyVerif.Props.Sim.stepSynapseState_eq
#print axioms JaxleyVerif.Props.Sim.sim_syn_state_row
#print axioms JaxleyVerif.Props.Sim.sim_syn_state_reads_pre_post
#print axioms JaxleyVerif.Props.Sim.sim_no_synapses_state
#print axioms JaxleyVerif.Props.Sim.sim_no_synapses_currents
#print axioms JaxleyVerif.Props.Sim.initState_no_synapses
#print axioms JaxleyVerif.Props.Sim.sim_no_synapses
