/- GENERATED by tools/mkaudit.py -/
import JaxleyVerif.Props.C14

#print axioms JaxleyVerif.Props.C14.two_rate_fixed
#print axioms JaxleyVerif.Props.C14.inf_fixed
#print axioms JaxleyVerif.Props.C14.two_rate_fixed_unique
#print axioms JaxleyVerif.Props.C14.HH_init_fixed
#print axioms JaxleyVerif.Props.C14.Na_init_fixed
#print axioms JaxleyVerif.Props.C14.K_init_fixed
#print axioms JaxleyVerif.Props.C14.CaL_init_fixed
#print axioms JaxleyVerif.Props.C14.Km_init_fixed
#print axioms JaxleyVerif.Props.C14.CaT_init_fixed
#print axioms JaxleyVerif.Props.C14.Leak_init
#print axioms JaxleyVerif.Props.C14.builtin_init_reads_no_state
#print axioms JaxleyVerif.Props.C14.module_init_states_idempotent
#print axioms JaxleyVerif.Props.C14.module_init_states_frame
#print axioms JaxleyVerif.Props.C14.module_init_states_HH_steady
