/- GENERATED by tools/mkaudit.py -/
import JaxleyVerif.Props.C15

#print axioms JaxleyVerif.Props.C15.beStep_fixed
#print axioms JaxleyVerif.Props.C15.steady_state_single_comp
#print axioms JaxleyVerif.Props.C15.be_factor
#print axioms JaxleyVerif.Props.C15.cn_factor
#print axioms JaxleyVerif.Props.C15.be_local_error
#print axioms JaxleyVerif.Props.C15.cn_local_error
#print axioms JaxleyVerif.Props.C15.pow_diff_le
#print axioms JaxleyVerif.Props.C15.abs_exp_neg_le_one
#print axioms JaxleyVerif.Props.C15.be_global_first_order
#print axioms JaxleyVerif.Props.C15.cn_global_second_order
#print axioms JaxleyVerif.Props.C15.mode_interior
#print axioms JaxleyVerif.Props.C15.mode_left_sealed
#print axioms JaxleyVerif.Props.C15.mode_right_sealed
#print axioms JaxleyVerif.Props.C15.spatial_modes_second_order
