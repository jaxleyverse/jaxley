/- GENERATED by tools/mkaudit.py -/
import JaxleyVerif.Props.C01

#print axioms JaxleyVerif.Props.C01.couplingCond_mul_area
#print axioms JaxleyVerif.Props.C01.couplingCond_eq_spec
#print axioms JaxleyVerif.Props.C01.bpCond_eq_spec
#print axioms JaxleyVerif.Props.C01.impact_eq_spec
#print axioms JaxleyVerif.Props.C01.stim_conversion
#print axioms JaxleyVerif.Props.C01.couplingCond_symmetric
#print axioms JaxleyVerif.Props.C01.specsys_unique
#print axioms JaxleyVerif.Props.C01.hines_solves
#print axioms JaxleyVerif.Props.C01.hines_pivots_pos
#print axioms JaxleyVerif.Props.C01.cn_from_half_step
#print axioms JaxleyVerif.Props.C01.thomas_triang_pivots
#print axioms JaxleyVerif.Props.C01.padding_irrelevant
#print axioms JaxleyVerif.Props.C01.thomas_slot_solves
#print axioms JaxleyVerif.Props.C01.thomas_triang_frame
#print axioms JaxleyVerif.Props.C01.bp_child_lower_row
#print axioms JaxleyVerif.Props.C01.bp_parent_upper_row
#print axioms JaxleyVerif.Props.C01.bp_parent_lower_row
#print axioms JaxleyVerif.Props.C01.bp_child_upper_row
#print axioms JaxleyVerif.Props.C01.custom_solver_correct
#print axioms JaxleyVerif.Props.C01.custom_solver_unique
#print axioms JaxleyVerif.Props.C01.pivot_check_sound
#print axioms JaxleyVerif.Props.C01.custom_solver_pivots_of_dominant
#print axioms JaxleyVerif.Props.C01.custom_solver_correct_cable
#print axioms JaxleyVerif.Props.C01.jaxley_arrays_denote_physical_system
#print axioms JaxleyVerif.Props.C01.jaxley_arrays_dominant
#print axioms JaxleyVerif.Props.C01.jaxley_backend_exact
