/- GENERATED by tools/mkaudit.py -/
import JaxleyVerif.Props.C19

#print axioms JaxleyVerif.Props.C19.step_keeps
#print axioms JaxleyVerif.Props.C19.step_n
#print axioms JaxleyVerif.Props.C19.inv_foldl
#print axioms JaxleyVerif.Props.C19.wf_reachable
#print axioms JaxleyVerif.Props.C19.noDangling_step
#print axioms JaxleyVerif.Props.C19.curInv_step
#print axioms JaxleyVerif.Props.C19.noDangling_foldl
#print axioms JaxleyVerif.Props.C19.noDangling_reachable
#print axioms JaxleyVerif.Props.C19.delete_channel_recordings
#print axioms JaxleyVerif.Props.C19.delete_recordings_undoes
#print axioms JaxleyVerif.Props.C19.delete_trainables_undoes
#print axioms JaxleyVerif.Props.C19.deleteExternal_other_keys
#print axioms JaxleyVerif.Props.C19.deleteExternal_removes_inView
#print axioms JaxleyVerif.Props.C19.deleteExternal_removes
#print axioms JaxleyVerif.Props.C19.deleteExternal_removes_edge
#print axioms JaxleyVerif.Props.C19.record_keeps_existing
#print axioms JaxleyVerif.Props.C19.insert_flags
