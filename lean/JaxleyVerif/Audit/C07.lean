/- GENERATED by tools/mkaudit.py -/
import JaxleyVerif.Props.C07

#print axioms JaxleyVerif.Props.C07.run_append
#print axioms JaxleyVerif.Props.C07.returned_state
#print axioms JaxleyVerif.Props.C07.manual_stepping_eq_integrate
#print axioms JaxleyVerif.Props.C07.integrate_split
#print axioms JaxleyVerif.Props.C07.integrate_split_many
#print axioms JaxleyVerif.Props.C07.returned_state_witness
