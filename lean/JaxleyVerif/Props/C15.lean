/-
C15 — simulations converge to cable theory at the expected order.

Proved, for the scalar one-step map of a passive compartment or cable mode (`beStep`; Crank–Nicolson is `2·beStep(dt/2) − v`, as in
`C01.cn_from_half_step`):
* units: the steady state under constant current (`steady_state_single_comp`)
* time: the amplification factors (`be_factor`, `cn_factor`), their distance to `exp(−h)` per step (`be_local_error`,
  `cn_local_error`) and the global orders (`be_global_first_order`, `cn_global_second_order`)
* space: the cosine modes are eigenvectors of the sealed-end compartmental second difference for every `N` (`mode_interior`,
  `mode_left_sealed`, `mode_right_sealed`), with eigenvalue `2 − 2cos(kπ/N)`, second-order close to the continuum value `(kπ/N)²`
  (`spatial_modes_second_order`)
Measured by the harness, not proved: refinement ladders on the real code (all backends) against closed forms.
-/
import JaxleyVerif.Lemmas.RealInst
import JaxleyVerif.Gen.Kernels

namespace JaxleyVerif.Props.C15
open JaxleyVerif JaxleyVerif.Gen

/-- one backward-Euler step of a single compartment as assembled by the code:
`x·(1 + dt·vt) = v + dt·ct` with `vt = 1000·g/c`, `ct = (1000·g·E + convert(I))/c` -/
noncomputable def beStep (v dt vt ct : ℝ) : ℝ := (v + dt * ct) / (1 + dt * vt)

theorem beStep_fixed {v dt vt : ℝ} (h : 1 + dt * vt ≠ 0) : beStep v dt vt (v * vt) = v := by
  rw [beStep, div_eq_iff h]
  ring

/-- the fixed point of the single-compartment step under constant current `I` (nA) is
`E + I·100/(2π·r·l·g)` mV (g in S/cm², r,l in µm), independent of `dt`, capacitance and scheme -/
theorem steady_state_single_comp {g E I r l c dt : ℝ} (hg : 0 < g) (hr : 0 < r) (hl : 0 < l) (hc : 0 < c) (hdt : 0 < dt) :
    let vt := 1000 * g / c
    let ct := (1000 * g * E + convert_point_process_to_distributed I r l) / c
    let vss := E + I * 100 / (2 * Real.pi * r * l * g)
    beStep vss dt vt ct = vss := by
  intro vt ct vss
  have hπ := Real.pi_pos
  -- `ct = vss·vt` is the conversion of units
  have hct : ct = vss * vt := by
    simp only [vt, ct, vss, convert_point_process_to_distributed, haspi_real, sci_lit]
    field_simp
    ring
  rw [hct]
  exact beStep_fixed (by positivity)

/-- backward Euler multiplies the distance to the steady state by `1/(1+h)`, `h = dt·vt` -/
theorem be_factor {v dt vt ct : ℝ} (hvt : vt ≠ 0) (h1 : 1 + dt * vt ≠ 0) :
    beStep v dt vt ct - ct / vt = (v - ct / vt) * (1 / (1 + dt * vt)) := by
  unfold beStep; field_simp; ring

/-- Crank–Nicolson (`2·beStep(dt/2) − v`) multiplies it by `(1 − h/2)/(1 + h/2)` -/
theorem cn_factor {v dt vt ct : ℝ} (hvt : vt ≠ 0) (h1 : 1 + dt / 2 * vt ≠ 0) :
    (2 * beStep v (dt / 2) vt ct - v) - ct / vt = (v - ct / vt) * ((1 - dt * vt / 2) / (1 + dt * vt / 2)) := by
  -- twice the backward-Euler contraction at `dt/2`, minus the identity: `2/(1 + h/2) − 1 = (1 − h/2)/(1 + h/2)`
  have hb := be_factor (v := v) (ct := ct) hvt h1
  rw [div_mul_eq_mul_div] at h1 hb
  generalize dt * vt / 2 = x at h1 hb ⊢
  have e : (1 - x) / (1 + x) = 2 * (1 / (1 + x)) - 1 := by field_simp; ring
  rw [e]
  linear_combination 2 * hb

theorem be_local_error {h : ℝ} (hh : 0 ≤ h) : 0 ≤ 1 / (1 + h) - Real.exp (-h) ∧ 1 / (1 + h) - Real.exp (-h) ≤ h ^ 2 := by
  have hpos : 0 < 1 + h := add_pos_of_pos_of_nonneg one_pos hh
  constructor
  · rw [sub_nonneg, Real.exp_neg, ← one_div]
    exact one_div_le_one_div_of_le hpos ((add_comm 1 h).le.trans (Real.add_one_le_exp h))
  · -- `1/(1+h) ≤ 1 − h + h²` because `(1 − h + h²)·(1 + h) = 1 + h³`, and `1 − h ≤ e^{−h}`
    have h3 : 1 / (1 + h) ≤ 1 - h + h ^ 2 := by
      rw [div_le_iff₀ hpos]
      linear_combination pow_nonneg hh 3
    linear_combination h3 + Real.add_one_le_exp (-h)

theorem cn_local_error {h : ℝ} (h0 : 0 ≤ h) (h1 : h ≤ 1) :
    |(1 - h / 2) / (1 + h / 2) - Real.exp (-h)| ≤ h ^ 3 / 2 := by
  -- both lie within `O(h³)` of `1 − h + h²/2`: `e^{−h}` by the Taylor remainder `h³·2/9`,
  -- the factor because it is `(h³/4)/(1 + h/2)` below it
  have hE : |1 - h + h ^ 2 / 2 - Real.exp (-h)| ≤ h ^ 3 * (2 / 9) := by
    have hb := Real.exp_bound (x := -h) (by rwa [abs_neg, abs_of_nonneg h0]) (n := 3) (by norm_num1)
    have e : ∑ m ∈ Finset.range 3, (-h) ^ m / (m.factorial : ℝ) = 1 - h + h ^ 2 / 2 := by
      rw [Finset.sum_range_succ, Finset.sum_range_succ, Finset.sum_range_one, Nat.factorial_zero, Nat.factorial_one,
        Nat.factorial_two, Nat.cast_one, Nat.cast_ofNat]
      ring
    rw [e, abs_sub_comm, abs_neg, abs_of_nonneg h0] at hb
    exact hb.trans_eq (by norm_num [Nat.factorial])
  have hP : |(1 - h / 2) / (1 + h / 2) - (1 - h + h ^ 2 / 2)| ≤ h ^ 3 / 4 := by
    have hp : 1 ≤ 1 + h / 2 := le_add_of_nonneg_right (div_nonneg h0 zero_le_two)
    have h3 : 0 ≤ h ^ 3 / 4 := div_nonneg (pow_nonneg h0 3) zero_le_four
    have e : 1 - h / 2 - (1 + h / 2) * (1 - h + h ^ 2 / 2) = -(h ^ 3 / 4) := by ring
    rw [div_sub' (zero_lt_one.trans_le hp).ne', e, neg_div, abs_neg, abs_of_nonneg (div_nonneg h3 (zero_le_one.trans hp))]
    exact div_le_self h3 hp
  calc _ ≤ |(1 - h / 2) / (1 + h / 2) - (1 - h + h ^ 2 / 2)| + |1 - h + h ^ 2 / 2 - Real.exp (-h)| := abs_sub_le _ _ _
    _ ≤ h ^ 3 / 4 + h ^ 3 * (2 / 9) := add_le_add hP hE
    _ = h ^ 3 / 2 - h ^ 3 / 36 := by ring
    _ ≤ h ^ 3 / 2 := sub_le_self _ (div_nonneg (pow_nonneg h0 3) (by norm_num1))

/-- error accumulation over `n` steps; both global orders are this at the one-step bounds -/
theorem pow_diff_le {a b ε : ℝ} (ha : |a| ≤ 1) (hb : |b| ≤ 1) (h : |a - b| ≤ ε) (n : ℕ) : |a ^ n - b ^ n| ≤ n * ε :=
  calc |a ^ n - b ^ n| ≤ |a - b| * n * max |a| |b| ^ (n - 1) := abs_pow_sub_pow_le a b n
    _ ≤ ε * n * 1 :=
        mul_le_mul (mul_le_mul_of_nonneg_right h n.cast_nonneg) (pow_le_one₀ (le_max_of_le_left (abs_nonneg a)) (max_le ha hb))
          (by positivity) (mul_nonneg ((abs_nonneg _).trans h) n.cast_nonneg)
    _ = n * ε := by ring

theorem abs_exp_neg_le_one {h : ℝ} (hh : 0 ≤ h) : |Real.exp (-h)| ≤ 1 :=
  (Real.abs_exp _).trans_le (Real.exp_le_one_iff.2 (neg_nonpos.2 hh))

/-- backward Euler is globally first order: after `n` steps of size `dt` (`t = n·dt`, `h = dt/τ ≥ 0`) the decay
factor differs from the exact `e^{−t/τ}` by at most `n·h² = (t/τ)·h` -/
theorem be_global_first_order {h : ℝ} (hh : 0 ≤ h) (n : ℕ) :
    |(1 / (1 + h)) ^ n - (Real.exp (-h)) ^ n| ≤ n * h ^ 2 := by
  have hpos : 0 < 1 + h := by positivity
  have ha : |1 / (1 + h)| ≤ 1 := by
    rw [abs_of_pos (by positivity), div_le_one hpos]
    exact le_add_of_nonneg_right hh
  have hl := be_local_error hh
  exact pow_diff_le ha (abs_exp_neg_le_one hh) (by rw [abs_of_nonneg hl.1]; exact hl.2) n

/-- Crank–Nicolson is globally second order: the decay factor after `n` steps differs by at most `n·h³/2 = (t/τ)·h²/2` -/
theorem cn_global_second_order {h : ℝ} (h0 : 0 ≤ h) (h1 : h ≤ 1) (n : ℕ) :
    |((1 - h / 2) / (1 + h / 2)) ^ n - (Real.exp (-h)) ^ n| ≤ n * (h ^ 3 / 2) := by
  have hp : 0 < 1 + h / 2 := by positivity
  have ha : |(1 - h / 2) / (1 + h / 2)| ≤ 1 := by
    rw [abs_le, le_div_iff₀ hp, div_le_one hp]
    exact ⟨by linear_combination, by linear_combination h0⟩
  exact pow_diff_le ha (abs_exp_neg_le_one h0) (cn_local_error h0 h1) n

/-- cosine mode `k` sampled at the centre of compartment `j` of `N` -/
noncomputable def mode (N k : ℕ) (j : ℤ) : ℝ := Real.cos (k * Real.pi / N * (j + 1 / 2))

/-- an interior row of the compartmental second difference, applied to a mode -/
theorem mode_interior (N k : ℕ) (j : ℤ) :
    mode N k (j + 1) - 2 * mode N k j + mode N k (j - 1) = -(2 - 2 * Real.cos (k * Real.pi / N)) * mode N k j := by
  unfold mode
  generalize (k:ℝ) * Real.pi / N = θ
  have e1 : θ * (((j + 1 : ℤ) : ℝ) + 1 / 2) = θ * ((j:ℝ) + 1 / 2) + θ := by rw [Int.cast_add, Int.cast_one]; ring
  have e2 : θ * (((j - 1 : ℤ) : ℝ) + 1 / 2) = θ * ((j:ℝ) + 1 / 2) - θ := by rw [Int.cast_sub, Int.cast_one]; ring
  rw [e1, e2, Real.cos_add, Real.cos_sub]; ring

/-- sealed left end: the ghost value equals the first value (`x_{−1} = x_0`), so the boundary row `x_1 − x_0` is the
interior row; `mode_right_sealed` is the same at the other end -/
theorem mode_left_sealed (N k : ℕ) : mode N k (-1) = mode N k 0 := by
  unfold mode
  have : (k:ℝ) * Real.pi / N * (((-1 : ℤ) : ℝ) + 1 / 2) = -((k:ℝ) * Real.pi / N * (((0 : ℤ) : ℝ) + 1 / 2)) := by
    push_cast; ring
  rw [this, Real.cos_neg]

theorem mode_right_sealed (N k : ℕ) (hN : 0 < N) : mode N k N = mode N k (N - 1) := by
  unfold mode
  -- `θ·N = kπ` for `θ = kπ/N`: the two sample points are mirror images about `kπ`
  have hθ : (k:ℝ) * Real.pi / N * N = k * Real.pi := div_mul_cancel₀ _ (Nat.cast_ne_zero.2 hN.ne')
  have e : (k:ℝ) * Real.pi / N * (((N : ℤ) : ℝ) + 1 / 2)
      = k * (2 * Real.pi) - (k:ℝ) * Real.pi / N * ((((N : ℤ) - 1 : ℤ) : ℝ) + 1 / 2) := by
    rw [Int.cast_sub, Int.cast_natCast, Int.cast_one]; linear_combination 2 * hθ
  rw [e, Real.cos_nat_mul_two_pi_sub]

/-- the discrete eigenvalue `2 − 2cos y` is second-order accurate: `|2 − 2cos y − y²| ≤ y⁴·(5/48)` for `|y| ≤ 1`
(`y = kπ/N = kπ·Δx/L`: relative error `O((kΔx)²)`) -/
theorem spatial_modes_second_order {y : ℝ} (hy : |y| ≤ 1) : |2 - 2 * Real.cos y - y ^ 2| ≤ y ^ 4 * (5 / 48) := by
  have h := Real.cos_bound hy
  rw [Even.pow_abs ⟨2, rfl⟩] at h
  rw [show 2 - 2 * Real.cos y - y ^ 2 = -2 * (Real.cos y - (1 - y ^ 2 / 2)) by ring, abs_mul, abs_neg, abs_two]
  linear_combination 2 * h

end JaxleyVerif.Props.C15
