/-
C14 — init_states puts every mechanism at its voltage-dependent steady state.

For every built-in channel the generated `init_state` is a fixed point of the generated `update_states`
at the same voltage and parameters, for every step `dt > 0`, wherever the rates are defined.  Statements
are value-wise (the per-channel theorems need no string disequalities): `init_state` returns exactly the listed keys with values
`x₀…`, and any state map holding these values is mapped by `update_states` to the same list.  Defect F3 (`Km`, `CaT`: `init_state`
returned `x∞/(x∞+τ)`) is what `Km_init_fixed`, `CaT_init_fixed` exclude.
-/
import JaxleyVerif.Props.C03
import JaxleyVerif.Lemmas.InitStates

namespace JaxleyVerif.Props.C14
open JaxleyVerif JaxleyVerif.Gen JaxleyVerif.Spec JaxleyVerif.Props.C03

/-- `hx`: `x` is the steady state, in whatever way `init_state` spells `α/(α+β)` (the caller closes `hx` by `ring1`). -/
theorem two_rate_fixed {x a b dt : ℝ} (hr : 0 < a ∧ 0 < b) (hdt : 0 < dt) (hx : x - a / (a + b) = 0) :
    solve_gate_exponential x dt a b = x := by
  have hab := add_pos hr.1 hr.2
  rw [solve_gate_exponential_eq hdt.le hab]
  exact (gateClosedForm_eq_self_iff hdt (tauOf_pos hab)).mpr (sub_eq_zero.mp hx)

theorem inf_fixed {sinf tau dt : ℝ} (htau : 0 < tau) (hdt : 0 < dt) :
    solve_inf_gate_exponential sinf dt sinf tau = sinf := by
  rw [solve_inf_gate_exponential_eq hdt.le htau]
  exact (gateClosedForm_eq_self_iff hdt htau).mpr rfl

/-- the steady state is the ONLY fixed point (so a wrong `init_state` is detected by one update) -/
theorem two_rate_fixed_unique {x a b dt : ℝ} (ha : 0 < a) (hb : 0 < b) (hdt : 0 < dt)
    (h : solve_gate_exponential x dt a b = x) : x = a / (a + b) := by
  have hab := add_pos ha hb
  rw [solve_gate_exponential_eq hdt.le hab] at h
  exact (gateClosedForm_eq_self_iff hdt (tauOf_pos hab)).mp h

section
variable (pfx : String) (st pr : String → ℝ) {dt dt0 v : ℝ}

theorem HH_init_fixed (hdt : 0 < dt) (hm : v ≠ -40) (hn : v ≠ -55) :
    ∃ m0 h0 n0, HH.init_state pfx st v pr dt0 = [(pfx ++ "_m", m0), (pfx ++ "_h", h0), (pfx ++ "_n", n0)] ∧
      ∀ st' : String → ℝ, st' (pfx ++ "_m") = m0 → st' (pfx ++ "_h") = h0 → st' (pfx ++ "_n") = n0 →
        HH.update_states pfx st' dt v pr = [(pfx ++ "_m", m0), (pfx ++ "_h", h0), (pfx ++ "_n", n0)] := by
  refine ⟨_, _, _, rfl, fun st' e1 e2 e3 => ?_⟩
  simp only [HH.update_states, e1, e2, e3]
  rw [two_rate_fixed (HH_m_rates_pos (HH_m_defined_iff.mpr hm)) hdt,
    two_rate_fixed (HH_h_rates_pos v) hdt,
    two_rate_fixed (HH_n_rates_pos (HH_n_defined_iff.mpr hn)) hdt]
  all_goals ring1

theorem Na_init_fixed (hdt : 0 < dt) (h13 : v ≠ pr "vt" + 13) (h40 : v ≠ pr "vt" + 40) :
    ∃ m0 h0, Na.init_state pfx st v pr dt0 = [(pfx ++ "_m", m0), (pfx ++ "_h", h0)] ∧
      ∀ st' : String → ℝ, st' (pfx ++ "_m") = m0 → st' (pfx ++ "_h") = h0 →
        Na.update_states pfx st' dt v pr = [(pfx ++ "_m", m0), (pfx ++ "_h", h0)] := by
  refine ⟨_, _, rfl, fun st' e1 e2 => ?_⟩
  simp only [Na.update_states, e1, e2]
  rw [two_rate_fixed (Na_m_rates_pos (Na_m_defined_iff.mpr ⟨h13, h40⟩)) hdt,
    two_rate_fixed (Na_h_rates_pos v _) hdt]
  all_goals ring1

theorem K_init_fixed (hdt : 0 < dt) (h15 : v ≠ pr "vt" + 15) :
    ∃ n0, K.init_state pfx st v pr dt0 = [(pfx ++ "_n", n0)] ∧
      ∀ st' : String → ℝ, st' (pfx ++ "_n") = n0 → K.update_states pfx st' dt v pr = [(pfx ++ "_n", n0)] := by
  refine ⟨_, rfl, fun st' e1 => ?_⟩
  simp only [K.update_states, e1]
  rw [two_rate_fixed (K_n_rates_pos (K_n_defined_iff.mpr h15)) hdt]
  ring1

theorem CaL_init_fixed (hdt : 0 < dt) (hq : v ≠ -27) :
    ∃ q0 r0, CaL.init_state pfx st v pr dt0 = [(pfx ++ "_q", q0), (pfx ++ "_r", r0)] ∧
      ∀ st' : String → ℝ, st' (pfx ++ "_q") = q0 → st' (pfx ++ "_r") = r0 →
        CaL.update_states pfx st' dt v pr = [(pfx ++ "_q", q0), (pfx ++ "_r", r0)] := by
  refine ⟨_, _, rfl, fun st' e1 e2 => ?_⟩
  simp only [CaL.update_states, e1, e2]
  rw [two_rate_fixed (CaL_q_rates_pos (CaL_q_defined_iff.mpr hq)) hdt,
    two_rate_fixed (CaL_r_rates_pos v) hdt]
  all_goals ring1

theorem Km_init_fixed (hdt : 0 < dt) (ht : 0 < pr (pfx ++ "_taumax")) :
    ∃ p0, Km.init_state pfx st v pr dt0 = [(pfx ++ "_p", p0)] ∧
      ∀ st' : String → ℝ, st' (pfx ++ "_p") = p0 → Km.update_states pfx st' dt v pr = [(pfx ++ "_p", p0)] := by
  refine ⟨_, rfl, fun st' e1 => ?_⟩
  simp only [Km.update_states, e1,
    inf_fixed (Km_p_gate_range (v := v) ht).2.2 hdt]

theorem CaT_init_fixed (hdt : 0 < dt) :
    ∃ u0, CaT.init_state pfx st v pr dt0 = [(pfx ++ "_u", u0)] ∧
      ∀ st' : String → ℝ, st' (pfx ++ "_u") = u0 → CaT.update_states pfx st' dt v pr = [(pfx ++ "_u", u0)] := by
  refine ⟨_, rfl, fun st' e1 => ?_⟩
  simp only [CaT.update_states, e1,
    inf_fixed (CaT_u_gate_range v _).2.2 hdt]

theorem Leak_init : Leak.init_state st v pr dt0 = [] := rfl

end

example : ∃ m0 h0 n0, HH.init_state "HH" (fun _ => (0:ℝ)) (-70) (fun _ => 0) 0.025
    = [("HH_m", m0), ("HH_h", h0), ("HH_n", n0)] :=
  let ⟨m0, h0, n0, e, _⟩ := HH_init_fixed "HH" (fun _ => (0:ℝ)) (fun _ => 0) (dt := 0.025) (dt0 := 0.025) (v := -70)
    (by norm_num) (by norm_num) (by norm_num)
  ⟨m0, h0, n0, e⟩


/-! ## `Module.init_states` (model: `Model/InitStates.lean`)

The per-channel theorems above are lifted to the module: every channel reads the snapshot of the row taken before the call, writes
only the keys it returns, only in rows where it is inserted. -/

section module
open JaxleyVerif.Model.InitStates

/-- the built-in channels as `Chan ℝ` values: their `init_state` is the GENERATED kernel -/
noncomputable def chanHH (pfx : String) : Chan ℝ := ⟨pfx, fun st v pr dt => HH.init_state pfx st v pr dt⟩
noncomputable def chanNa (pfx : String) : Chan ℝ := ⟨pfx, fun st v pr dt => Na.init_state pfx st v pr dt⟩
noncomputable def chanK (pfx : String) : Chan ℝ := ⟨pfx, fun st v pr dt => K.init_state pfx st v pr dt⟩
noncomputable def chanKm (pfx : String) : Chan ℝ := ⟨pfx, fun st v pr dt => Km.init_state pfx st v pr dt⟩
noncomputable def chanCaL (pfx : String) : Chan ℝ := ⟨pfx, fun st v pr dt => CaL.init_state pfx st v pr dt⟩
noncomputable def chanCaT (pfx : String) : Chan ℝ := ⟨pfx, fun st v pr dt => CaT.init_state pfx st v pr dt⟩
noncomputable def chanLeak (pfx : String) : Chan ℝ := ⟨pfx, fun st v pr dt => Leak.init_state st v pr dt⟩

/-- no built-in `init_state` reads the states it is given: it is a function of voltage and parameters only -/
theorem builtin_init_reads_no_state (pfx : String) (s s' : String → ℝ) (v : ℝ) (p : String → ℝ) (dt : ℝ) :
    (chanHH pfx).init s v p dt = (chanHH pfx).init s' v p dt ∧ (chanNa pfx).init s v p dt = (chanNa pfx).init s' v p dt ∧
    (chanK pfx).init s v p dt = (chanK pfx).init s' v p dt ∧ (chanKm pfx).init s v p dt = (chanKm pfx).init s' v p dt ∧
    (chanCaL pfx).init s v p dt = (chanCaL pfx).init s' v p dt ∧ (chanCaT pfx).init s v p dt = (chanCaT pfx).init s' v p dt ∧
    (chanLeak pfx).init s v p dt = (chanLeak pfx).init s' v p dt :=
  ⟨rfl, rfl, rfl, rfl, rfl, rfl, rfl⟩

/-- hence `init_states` is idempotent on every module made of built-in channels (any names, any insertion order, any membership) -/
theorem module_init_states_idempotent (chans : List (Chan ℝ)) (has : String → Bool) (dt : ℝ) (r : Row ℝ)
    (hb : ∀ c ∈ chans, ∃ pfx, c = chanHH pfx ∨ c = chanNa pfx ∨ c = chanK pfx ∨ c = chanKm pfx ∨ c = chanCaL pfx ∨
        c = chanCaT pfx ∨ c = chanLeak pfx) :
    initRow chans has dt (initRow chans has dt r) = initRow chans has dt r := by
  apply initRow_idem
  intro c hc s s' v p
  obtain ⟨pfx, h⟩ := hb c hc
  rcases h with h | h | h | h | h | h | h <;> subst h <;> rfl

/-- not written: voltages, parameters, rows without a channel, columns no member channel returns -/
theorem module_init_states_frame (chans : List (Chan ℝ)) (has : String → Bool) (dt : ℝ) (r : Row ℝ) :
    (initRow chans has dt r).v = r.v ∧ (initRow chans has dt r).params = r.params ∧
    ((∀ c ∈ chans, has c.name = false) → (initRow chans has dt r).states = r.states) ∧
    (∀ k, (∀ c ∈ chans, has c.name = true → k ∉ keysOf (c.init r.states r.v r.params dt)) →
        (initRow chans has dt r).states k = r.states k) :=
  ⟨rfl, rfl, initRow_no_channel chans has dt r, fun k h => initRowFrom_frame chans has dt r r.states k h⟩

/-- **HH after `init_states` is at its steady state**: in a row where an HH channel (any name `pfx`) is inserted and no other
inserted channel writes `pfx_m/_h/_n`, one `update_states` at the row's voltage returns exactly the values `init_states` wrote,
for every `dt > 0` (away from the removable singularities of the rate functions, known finding F4b) -/
theorem module_init_states_HH_steady (chans : List (Chan ℝ)) (has : String → Bool) (dt0 dt : ℝ) (r : Row ℝ) (pfx : String)
    (hc : chanHH pfx ∈ chans) (hhas : has pfx = true)
    (hother : ∀ c' ∈ chans, c' ≠ chanHH pfx → has c'.name = true → ∀ k ∈ [pfx ++ "_m", pfx ++ "_h", pfx ++ "_n"],
        k ∉ keysOf (c'.init r.states r.v r.params dt0))
    (hdt : 0 < dt) (hm : r.v ≠ -40) (hn : r.v ≠ -55) :
    let r' := initRow chans has dt0 r
    HH.update_states pfx r'.states dt r'.v r'.params
      = [(pfx ++ "_m", r'.states (pfx ++ "_m")), (pfx ++ "_h", r'.states (pfx ++ "_h")), (pfx ++ "_n", r'.states (pfx ++ "_n"))] := by
  intro r'
  obtain ⟨m0, h0, n0, e, hfix⟩ := HH_init_fixed pfx r.states r.params (dt := dt) (dt0 := dt0) (v := r.v) hdt hm hn
  have get : ∀ k x, (k, x) ∈ [(pfx ++ "_m", m0), (pfx ++ "_h", h0), (pfx ++ "_n", n0)] → r'.states k = x := fun k x hkx =>
    -- the keys are distinct: the three suffixes differ and `pfx ++ ·` is injective
    initRowFrom_member chans has dt0 r r.states (chanHH pfx) hc hhas e (by simp [keysOf]) k x hkx
      fun c' hc' hne hh' => hother c' hc' hne hh' k (List.mem_map_of_mem (f := Prod.fst) hkx)
  have em := get _ _ (List.mem_cons_self)
  have eh := get (pfx ++ "_h") h0 (by simp)
  have en := get (pfx ++ "_n") n0 (by simp)
  rw [em, eh, en]
  exact hfix r'.states em eh en

/-- non-vacuity: a row with HH and Leak inserted (default names) -/
example : let r : Row ℝ := ⟨-70, fun _ => 0, fun _ => 0⟩
    let r' := initRow [chanHH "HH", chanLeak "Leak"] (fun _ => true) 0.025 r
    HH.update_states "HH" r'.states 0.025 r'.v r'.params
      = [("HH_m", r'.states "HH_m"), ("HH_h", r'.states "HH_h"), ("HH_n", r'.states "HH_n")] := by
  intro r r'
  refine module_init_states_HH_steady [chanHH "HH", chanLeak "Leak"] (fun _ => true) 0.025 0.025 r "HH"
    List.mem_cons_self rfl ?_ (by norm_num) (by norm_num) (by norm_num)
  intro c' hc' hne _ k _
  simp only [List.mem_cons, List.not_mem_nil, or_false] at hc'
  rcases hc' with h | h
  · exact absurd h hne
  · subst h; exact List.not_mem_nil

end module

end JaxleyVerif.Props.C14
