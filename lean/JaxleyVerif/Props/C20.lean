/-
C20 — connectivity builders create exactly the requested connections.

About `Model.Connect`, for EVERY outcome of the sampling (the draws are arguments).  `fully_connect`: the list has `npre · npost`
entries and entry `a·npost + b` is (site of pre cell `a`, the `a`-th compartment sampled for post cell `b`); that this compartment
lies in post cell `b` is a property of the sampler, not stated here.  `connectivity_matrix_connect`: `np.where` lists exactly the
True entries, each once, and there is one synapse per listed entry.  `sparse_connect`: one synapse per drawn pair (0 and 1 draws
included), each starting at the pre site of a drawn pre cell.
-/
import Mathlib.Data.List.Nodup
import Mathlib.Data.List.GetD
import JaxleyVerif.Model.Connect
import JaxleyVerif.Lemmas.Lists

namespace JaxleyVerif.Props.C20
open JaxleyVerif.Model.Connect

/-! `repeatEach` and `transposeRavel` both concatenate blocks of one length, `npost`; `fully_connect` pairs them position by position. -/

theorem length_flatMap_block {α β : Type} (f : α → List β) (k : Nat) (l : List α) (h : ∀ x ∈ l, (f x).length = k) :
    (l.flatMap f).length = l.length * k := by
  rw [List.length_flatMap, List.map_congr_left h, List.map_const', List.sum_replicate_nat]

theorem getElem?_flatMap_block {α β : Type} (f : α → List β) (k : Nat) {b : Nat} (hb : b < k) (l : List α)
    (h : ∀ x ∈ l, (f x).length = k) (a : Nat) : (l.flatMap f)[a * k + b]? = l[a]?.bind fun x => (f x)[b]? := by
  by_cases ha : a < l.length
  · have hoff := getElem?_flatMap_offset f l a b (fun x hx => (h x (List.mem_of_getElem? hx)).symm ▸ hb)
    rwa [length_flatMap_block f k _ (fun x hx => h x (List.mem_of_mem_take hx)), List.length_take,
      Nat.min_eq_left (Nat.le_of_lt ha)] at hoff
  · have hle : l.length ≤ a := Nat.le_of_not_lt ha
    rw [List.getElem?_eq_none hle, List.getElem?_eq_none]
    · rfl
    · rw [length_flatMap_block f k l h]
      exact Nat.le_trans (Nat.mul_le_mul_right k hle) (Nat.le_add_right _ _)

theorem repeatEach_length (npost : Nat) (pre : List Nat) : (repeatEach npost pre).length = pre.length * npost :=
  length_flatMap_block _ npost pre fun _ _ => List.length_replicate

theorem transposeRavel_length (npost npre : Nat) (flat : List Nat) :
    (transposeRavel npost npre flat).length = npre * npost := by
  rw [transposeRavel, length_flatMap_block _ npost _ (fun _ _ => by rw [List.length_map, List.length_range]), List.length_range]

theorem repeatEach_get (npost : Nat) (pre : List Nat) (a b : Nat) (hb : b < npost) :
    (repeatEach npost pre)[a * npost + b]? = pre[a]? := by
  rw [repeatEach, getElem?_flatMap_block _ npost hb _ fun _ _ => List.length_replicate]
  cases pre[a]? with
  | none => rfl
  | some p => exact List.getElem?_replicate.trans (if_pos hb)

theorem transposeRavel_get (npost npre : Nat) (flat : List Nat) (a b : Nat) (ha : a < npre) (hb : b < npost) :
    (transposeRavel npost npre flat)[a * npost + b]? = some (flat.getD (b * npre + a) 0) := by
  rw [transposeRavel, getElem?_flatMap_block _ npost hb _ (fun _ _ => by rw [List.length_map, List.length_range]),
    List.getElem?_range ha]
  show ((List.range npost).map _)[b]? = _
  rw [List.getElem?_map, List.getElem?_range hb]
  rfl

/-- synapse number `a·npost + b` goes from the site of pre cell `a` to the `a`-th compartment sampled for post cell `b`, for every
draw and for equal or different population sizes (F7) -/
theorem fullyConnect_pairs (preSites : List Nat) (npost : Nat) (flat : List Nat) (a b : Nat)
    (ha : a < preSites.length) (hb : b < npost) :
    (fullyConnect preSites npost flat).getD (a * npost + b) (0, 0)
      = (preSites.getD a 0, flat.getD (b * preSites.length + a) 0) := by
  unfold fullyConnect
  rw [List.getD_eq_getElem?_getD, List.getElem?_zip_eq_some.mpr ⟨?_, ?_⟩]
  · rfl
  · rw [repeatEach_get _ _ _ _ hb, List.getElem?_eq_getElem ha, List.getD_eq_getElem _ _ ha]
  · exact transposeRavel_get _ _ _ _ _ ha hb

theorem fullyConnect_length (preSites : List Nat) (npost : Nat) (flat : List Nat) :
    (fullyConnect preSites npost flat).length = preSites.length * npost := by
  unfold fullyConnect
  rw [List.length_zip, repeatEach_length, transposeRavel_length, Nat.min_self]

theorem whereTrue_spec (m : List (List Bool)) (i j : Nat) :
    (i, j) ∈ whereTrue m ↔ i < m.length ∧ j < (m.getD i []).length ∧ (m.getD i []).getD j false = true := by
  unfold whereTrue
  simp only [List.mem_flatMap, List.mem_range, List.mem_map, List.mem_filter, Prod.mk.injEq]
  constructor
  · rintro ⟨i', hi', j', ⟨hj', hb⟩, rfl, rfl⟩; exact ⟨hi', hj', hb⟩
  · rintro ⟨hi, hj, hb⟩; exact ⟨i, hi, j, ⟨hj, hb⟩, rfl, rfl⟩

theorem whereTrue_nodup (m : List (List Bool)) : (whereTrue m).Nodup := by
  unfold whereTrue
  rw [List.nodup_flatMap]
  refine ⟨fun i _ => ?_, ?_⟩
  · exact (List.nodup_range.filter _).map (fun a b h => by injection h)
  · refine List.Pairwise.imp_of_mem ?_ List.nodup_range
    -- blocks of different rows are disjoint: the first component is the row
    intro a b _ _ hab x hx hy
    obtain ⟨_, _, rfl⟩ := List.mem_map.mp hx
    obtain ⟨_, _, h⟩ := List.mem_map.mp hy
    exact hab (Prod.mk.inj h).1.symm

theorem matrixConnect_length (preSites : List Nat) (m : List (List Bool)) (samples : List Nat)
    (h : samples.length = (whereTrue m).length) : (matrixConnect preSites m samples).length = (whereTrue m).length := by
  rw [matrixConnect, List.length_zip, List.length_map, h, Nat.min_self]

theorem insertByFst_perm (p : Nat × Nat) : ∀ l : List (Nat × Nat), (insertByFst p l).Perm (p :: l)
  | [] => .refl _
  | q :: qs => by
    unfold insertByFst
    split
    · exact .refl _
    · exact ((insertByFst_perm p qs).cons q).trans (.swap p q qs)

theorem sortByFst_perm : ∀ l : List (Nat × Nat), (sortByFst l).Perm l
  | [] => .refl _
  | p :: ps => (insertByFst_perm p _).trans ((sortByFst_perm ps).cons p)

/-- for every number of draws, 0 and 1 included (F8) -/
theorem sparseConnect_length (preSiteOf : Nat → Nat) (pairs : List (Nat × Nat)) (samples : List Nat)
    (h : samples.length = pairs.length) : (sparseConnect preSiteOf pairs samples).length = pairs.length := by
  rw [sparseConnect, List.length_zip, List.length_map, (sortByFst_perm pairs).length_eq, h, Nat.min_self]

/-- every synapse of `sparse_connect` starts at the pre site of a drawn pre cell -/
theorem sparseConnect_pre_sites (preSiteOf : Nat → Nat) (pairs : List (Nat × Nat)) (samples : List Nat) (e : Nat × Nat)
    (he : e ∈ sparseConnect preSiteOf pairs samples) : ∃ p ∈ pairs, e.1 = preSiteOf p.1 := by
  obtain ⟨q, hq, hq2⟩ := List.mem_map.mp (List.of_mem_zip he).1
  exact ⟨q, (sortByFst_perm pairs).mem_iff.mp hq, hq2.symm⟩

/-- non-vacuity / the F7 witness: 2 pre cells (sites 0, 3), 3 post cells, samples post-cell major -/
example : fullyConnect [0, 3] 3 [10, 11, 20, 21, 30, 31] = [(0, 10), (0, 20), (0, 30), (3, 11), (3, 21), (3, 31)] := by decide

end JaxleyVerif.Props.C20
