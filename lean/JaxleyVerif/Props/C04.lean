/-
C04 — built-in mechanisms implement their published kinetics and currents.

`Gen.*` is regenerated from jaxley's Python source on every run; `Spec.*` (Spec/Published.lean) is typed in
from the publications.  Theorems: equality on the region where jaxley's clipped exponential `save_exp`
is not clipping, which contains the property's domain except where stated otherwise.
-/
import JaxleyVerif.Lemmas.Gate

namespace JaxleyVerif.Props.C04
open JaxleyVerif JaxleyVerif.Gen

/-! ### rates, steady states, time constants and currents

The clip is dealt with on the side of the published formula: one bound per exponential of the formula, a multiple of the interval
hypothesis, shows that it is at most `e²⁰`, so it can be written `save_exp` (`← save_exp_eq`).  Kernel and formula are then two
arithmetic expressions in `save_exp`, and the identity is closed as the head of `Lemmas/Gate.lean` says: put in the form `_ - _ = 0`
(for the pairs: in `ℝ × ℝ`, split into components after unfolding) before anything is unfolded, literals removed by `sci_lit`, then
`ring1` per component where kernel and formula spell the arguments of `save_exp` alike, `ring_nf`, which also normalises inside
`save_exp`, where they spell them differently (`-0.25 * x` and `-x / 4.0`).  No proof names an argument of the generated code: if the
Python source reorders one where `ring1` stands, `ring_nf` is what to write there.

The intervals `-150 ≤ v`, `v ≤ 100` are the property's domain (properties.jsonl), not clip thresholds; where a clip lies inside the
domain the theorem takes the threshold as its hypothesis and its docstring names the exponential that clips. -/

theorem HH_m_gate_eq {v : ℝ} (h : -150 ≤ v) :
    HH.m_gate v = (Spec.HH.alpha_m v, Spec.HH.beta_m v) := by
  -- Each bound is spelt token for token like the exponential's argument in `Spec/Published.lean` (`40.0`, not `40`), or
  -- `← save_exp_eq ca` does not rewrite.  `sci_lit` is a second `simp only` pass: in one pass simp rewrites the literals inside
  -- the argument first, and then the bound does not match.
  have ca : -(v + 40.0) / 10.0 ≤ 20 := by simp only [sci_lit]; linear_combination h / 10
  have cb : -(v + 65.0) / 18.0 ≤ 20 := by simp only [sci_lit]; linear_combination h / 18
  refine sub_eq_zero.mp ?_
  simp only [HH.m_gate, vtrap_def, Spec.HH.alpha_m, Spec.HH.beta_m, Spec.HH.vtrap, transc_exp_real, ← save_exp_eq ca,
    ← save_exp_eq cb]
  simp only [sci_lit, Prod.mk_sub_mk, Prod.mk_eq_zero]
  constructor <;> ring1

theorem HH_h_gate_eq {v : ℝ} (h : -150 ≤ v) :
    HH.h_gate v = (Spec.HH.alpha_h v, Spec.HH.beta_h v) := by
  have ca : -(v + 65.0) / 20.0 ≤ 20 := by simp only [sci_lit]; linear_combination h / 20
  have cb : -(v + 35.0) / 10.0 ≤ 20 := by simp only [sci_lit]; linear_combination h / 10
  refine sub_eq_zero.mp ?_
  simp only [HH.h_gate, Spec.HH.alpha_h, Spec.HH.beta_h, transc_exp_real, ← save_exp_eq ca, ← save_exp_eq cb]
  simp only [sci_lit, Prod.mk_sub_mk, Prod.mk_eq_zero]
  constructor <;> ring1

theorem HH_n_gate_eq {v : ℝ} (h : -150 ≤ v) :
    HH.n_gate v = (Spec.HH.alpha_n v, Spec.HH.beta_n v) := by
  have ca : -(v + 55.0) / 10.0 ≤ 20 := by simp only [sci_lit]; linear_combination h / 10
  have cb : -(v + 65.0) / 80.0 ≤ 20 := by simp only [sci_lit]; linear_combination h / 80
  refine sub_eq_zero.mp ?_
  simp only [HH.n_gate, vtrap_def, Spec.HH.alpha_n, Spec.HH.beta_n, Spec.HH.vtrap, transc_exp_real, ← save_exp_eq ca,
    ← save_exp_eq cb]
  simp only [sci_lit, Prod.mk_sub_mk, Prod.mk_eq_zero]
  constructor <;> ring1

theorem HH_current_eq (pfx : String) (st pr : String → ℝ) (v : ℝ) :
    HH.compute_current pfx st v pr
      = Spec.HH.current (pr (pfx ++ "_gNa")) (pr (pfx ++ "_gK")) (pr (pfx ++ "_gLeak"))
          (pr (pfx ++ "_eNa")) (pr (pfx ++ "_eK")) (pr (pfx ++ "_eLeak"))
          (st (pfx ++ "_m")) (st (pfx ++ "_h")) (st (pfx ++ "_n")) v := by
  unfold HH.compute_current Spec.HH.current
  ring

/-- Na: α_m clips below `vt − 67`, β_m above `vt + 140` -/
theorem Na_m_gate_eq {v vt : ℝ} (h1 : vt - 67 ≤ v) (h2 : v ≤ vt + 140) :
    Na.m_gate v vt = (Spec.Posp.alpha_m v vt, Spec.Posp.beta_m v vt) := by
  have ca : -(v - vt - 13.0) / 4.0 ≤ 20 := by simp only [sci_lit]; linear_combination h1 / 4
  have cb : (v - vt - 40.0) / 5.0 ≤ 20 := by simp only [sci_lit]; linear_combination h2 / 5
  refine sub_eq_zero.mp ?_
  simp only [Na.m_gate, efun_def, Spec.Posp.alpha_m, Spec.Posp.beta_m, transc_exp_real, ← save_exp_eq ca, ← save_exp_eq cb]
  simp only [sci_lit, Prod.mk_sub_mk, Prod.mk_eq_zero]
  constructor <;> ring_nf (mode := .raw)

/-- β_h clips below `vt − 60` -/
theorem Na_h_gate_eq {v vt : ℝ} (h1 : vt - 60 ≤ v) :
    Na.h_gate v vt = (Spec.Posp.alpha_h v vt, Spec.Posp.beta_h v vt) := by
  have ca : -(v - vt - 17.0) / 18.0 ≤ 20 := by simp only [sci_lit]; linear_combination h1 / 18
  have cb : -(v - vt - 40.0) / 5.0 ≤ 20 := by simp only [sci_lit]; linear_combination h1 / 5
  refine sub_eq_zero.mp ?_
  simp only [Na.h_gate, Spec.Posp.alpha_h, Spec.Posp.beta_h, transc_exp_real, ← save_exp_eq ca, ← save_exp_eq cb]
  simp only [sci_lit, Prod.mk_sub_mk, Prod.mk_eq_zero]
  constructor <;> ring1

theorem Na_current_eq (pfx : String) (st pr : String → ℝ) (v : ℝ) :
    Na.compute_current pfx st v pr
      = Spec.Posp.na_current (pr (pfx ++ "_gNa")) (pr "eNa") (st (pfx ++ "_m")) (st (pfx ++ "_h")) v := by
  unfold Na.compute_current Spec.Posp.na_current; ring

/-- K: α_n clips below `vt − 85` -/
theorem K_n_gate_eq {v vt : ℝ} (h1 : vt - 85 ≤ v) :
    K.n_gate v vt = (Spec.Posp.alpha_n v vt, Spec.Posp.beta_n v vt) := by
  have ca : -(v - vt - 15.0) / 5.0 ≤ 20 := by simp only [sci_lit]; linear_combination h1 / 5
  have cb : -(v - vt - 10.0) / 40.0 ≤ 20 := by simp only [sci_lit]; linear_combination h1 / 40
  refine sub_eq_zero.mp ?_
  simp only [K.n_gate, efun_def, Spec.Posp.alpha_n, Spec.Posp.beta_n, transc_exp_real, ← save_exp_eq ca, ← save_exp_eq cb]
  simp only [sci_lit, Prod.mk_sub_mk, Prod.mk_eq_zero]
  constructor <;> ring_nf (mode := .raw)

theorem K_current_eq (pfx : String) (st pr : String → ℝ) (v : ℝ) :
    K.compute_current pfx st v pr = Spec.Posp.k_current (pr (pfx ++ "_gK")) (pr "eK") (st (pfx ++ "_n")) v := by
  unfold K.compute_current Spec.Posp.k_current; ring

theorem Km_p_gate_eq {v taumax : ℝ} (h1 : -150 ≤ v) (h2 : v ≤ 100) :
    Km.p_gate v taumax = (Spec.Posp.p_inf v, Spec.Posp.tau_p v taumax) := by
  have c1 : -(v + 35.0) / 10.0 ≤ 20 := by simp only [sci_lit]; linear_combination h1 / 10
  have c2 : (v + 35.0) / 20.0 ≤ 20 := by simp only [sci_lit]; linear_combination h2 / 20
  have c3 : -(v + 35.0) / 20.0 ≤ 20 := by simp only [sci_lit]; linear_combination h1 / 20
  refine sub_eq_zero.mp ?_
  simp only [Km.p_gate, Spec.Posp.p_inf, Spec.Posp.tau_p, transc_exp_real, ← save_exp_eq c1, ← save_exp_eq c2,
    ← save_exp_eq c3]
  simp only [sci_lit, Prod.mk_sub_mk, Prod.mk_eq_zero]
  constructor <;> ring_nf (mode := .raw)

theorem Km_current_eq (pfx : String) (st pr : String → ℝ) (v : ℝ) :
    Km.compute_current pfx st v pr = Spec.Posp.km_current (pr (pfx ++ "_gKm")) (pr "eK") (st (pfx ++ "_p")) v := by
  unfold Km.compute_current Spec.Posp.km_current; ring

/-- CaL: α_q clips below −103 mV -/
theorem CaL_q_gate_eq {v : ℝ} (h1 : -103 ≤ v) :
    CaL.q_gate v = (Spec.Posp.alpha_q v, Spec.Posp.beta_q v) := by
  have ca : (-27.0 - v) / 3.8 ≤ 20 := by simp only [sci_lit]; linear_combination h1 / 3.8
  have cb : (-75.0 - v) / 17.0 ≤ 20 := by simp only [sci_lit]; linear_combination h1 / 17
  refine sub_eq_zero.mp ?_
  simp only [CaL.q_gate, efun_def, Spec.Posp.alpha_q, Spec.Posp.beta_q, transc_exp_real, ← save_exp_eq ca, ← save_exp_eq cb]
  simp only [sci_lit, Prod.mk_sub_mk, Prod.mk_eq_zero]
  constructor <;> ring_nf (mode := .raw)

theorem CaL_r_gate_eq {v : ℝ} (h1 : -150 ≤ v) :
    CaL.r_gate v = (Spec.Posp.alpha_r v, Spec.Posp.beta_r v) := by
  have ca : (-13.0 - v) / 50.0 ≤ 20 := by simp only [sci_lit]; linear_combination h1 / 50
  have cb : (-15.0 - v) / 28.0 ≤ 20 := by simp only [sci_lit]; linear_combination h1 / 28
  refine sub_eq_zero.mp ?_
  simp only [CaL.r_gate, Spec.Posp.alpha_r, Spec.Posp.beta_r, transc_exp_real, ← save_exp_eq ca, ← save_exp_eq cb]
  simp only [sci_lit, Prod.mk_sub_mk, Prod.mk_eq_zero]
  constructor <;> ring_nf (mode := .raw)

theorem CaL_current_eq (pfx : String) (st pr : String → ℝ) (v : ℝ) :
    CaL.compute_current pfx st v pr
      = Spec.Posp.cal_current (pr (pfx ++ "_gCaL")) (pr "eCa") (st (pfx ++ "_q")) (st (pfx ++ "_r")) v := by
  unfold CaL.compute_current Spec.Posp.cal_current; ring

/-- CaT: the denominator exponential of `τ_u` clips above `v + vx = −20`, inside the property's domain (`CaT_tau_u_clip_active`) -/
theorem CaT_u_gate_eq {v vx : ℝ} (h1 : v + vx ≤ -20) :
    CaT.u_gate v vx = (Spec.Posp.u_inf v vx, Spec.Posp.tau_u v vx) := by
  have c1 : (v + vx + 81.0) / 4.0 ≤ 20 := by simp only [sci_lit]; linear_combination h1 / 4
  have c2 : (v + vx + 113.2) / 5.0 ≤ 20 := by simp only [sci_lit]; linear_combination h1 / 5
  have c3 : (v + vx + 84.0) / 3.2 ≤ 20 := by simp only [sci_lit]; linear_combination h1 / 3.2
  refine sub_eq_zero.mp ?_
  simp only [CaT.u_gate, Spec.Posp.u_inf, Spec.Posp.tau_u, transc_exp_real, ← save_exp_eq c1, ← save_exp_eq c2,
    ← save_exp_eq c3]
  simp only [sci_lit, Prod.mk_sub_mk, Prod.mk_eq_zero]
  constructor <;> ring1

theorem CaT_current_eq (pfx : String) (st pr : String → ℝ) {v : ℝ} (h : -181 ≤ v + pr (pfx ++ "_vx")) :
    CaT.compute_current pfx st v pr
      = Spec.Posp.cat_current (pr (pfx ++ "_gCaT")) (pr "eCa") (st (pfx ++ "_u")) v (pr (pfx ++ "_vx")) := by
  have c : -(v + pr (pfx ++ "_vx") + 57.0) / 6.2 ≤ 20 := by simp only [sci_lit]; linear_combination h / 6.2
  refine sub_eq_zero.mp ?_
  simp only [CaT.compute_current, Spec.Posp.cat_current, Spec.Posp.s_inf, transc_exp_real, ← save_exp_eq c]
  simp only [sci_lit]
  ring1

theorem Leak_current_eq (pfx : String) (st pr : String → ℝ) (v : ℝ) :
    Leak.compute_current pfx st v pr = Spec.Posp.leak_current (pr (pfx ++ "_gLeak")) (pr (pfx ++ "_eLeak")) v := by
  unfold Leak.compute_current Spec.Posp.leak_current; ring

theorem Ionotropic_current_eq (pfx : String) (st pr : String → ℝ) (vpre vpost : ℝ) :
    IonotropicSynapse.compute_current pfx st vpre vpost pr
      = Spec.AM.current (pr (pfx ++ "_gS")) (pr (pfx ++ "_e_syn")) (st (pfx ++ "_s")) vpost := by
  unfold IonotropicSynapse.compute_current Spec.AM.current; ring

theorem Ionotropic_update_eq (pfx : String) (st pr : String → ℝ) {dt vpre vpost : ℝ} (h : -235 ≤ vpre) :
    IonotropicSynapse.update_states pfx st dt vpre vpost pr
      = [(pfx ++ "_s", solve_inf_gate_exponential (st (pfx ++ "_s")) dt (Spec.AM.s_inf vpre)
            (Spec.AM.tau_s vpre (pr (pfx ++ "_k_minus"))))] := by
  have c : (-35.0 - vpre) / 10.0 ≤ 20 := by simp only [sci_lit]; linear_combination h / 10
  refine congrArg (fun s => [(pfx ++ "_s", s)]) (sub_eq_zero.mp ?_)
  simp only [solve_inf_gate_exponential, Spec.AM.tau_s, Spec.AM.s_inf, transc_exp_real, ← save_exp_eq c]
  simp only [sci_lit]
  ring1

/-! ### where the clip is active inside the property's domain (known finding N4) -/

/-- For `v + vx > −20` the denominator exponential of CaT's `τ_u` is clipped: jaxley evaluates `e²⁰`
where the published formula has `exp((v+vx+84)/3.2) > e²⁰` (and for `v + vx > −13.2` also the numerator's),
so the time constant deviates from Pospischil's (0.27 ms instead of 0.0058 ms at `v + vx = 2`). -/
theorem CaT_tau_u_clip_active {v vx : ℝ} (h : -20 < v + vx) :
    save_exp ((v + vx + 84.0) / 3.2) = Real.exp 20 ∧ Real.exp 20 < Real.exp ((v + vx + 84.0) / 3.2) := by
  have hb : (20:ℝ) < (v + vx + 84.0) / 3.2 := by simp only [sci_lit]; linear_combination h / 3.2
  exact ⟨save_exp_clipped hb.le, Real.exp_lt_exp.mpr hb⟩

-- The generated tables and the specification's differ in the spelling of decimals only (`0.0001` and `1e-4`, `4.0e-5` and
-- `4e-5`): hence `norm_num`, not `rfl`.
theorem HH_defaults (pfx : String) : HH.channel_params (α := ℝ) pfx = Spec.HH.defaults pfx := by
  unfold HH.channel_params Spec.HH.defaults; norm_num
theorem Leak_defaults (pfx : String) : Leak.channel_params (α := ℝ) pfx = Spec.Posp.leak_defaults pfx := by
  unfold Leak.channel_params Spec.Posp.leak_defaults; norm_num
theorem Na_defaults (pfx : String) : Na.channel_params (α := ℝ) pfx = Spec.Posp.na_defaults pfx := by
  unfold Na.channel_params Spec.Posp.na_defaults; norm_num
theorem K_defaults (pfx : String) : K.channel_params (α := ℝ) pfx = Spec.Posp.k_defaults pfx := by
  unfold K.channel_params Spec.Posp.k_defaults; norm_num
theorem Km_defaults (pfx : String) : Km.channel_params (α := ℝ) pfx = Spec.Posp.km_defaults pfx := by
  unfold Km.channel_params Spec.Posp.km_defaults; norm_num
theorem CaL_defaults (pfx : String) : CaL.channel_params (α := ℝ) pfx = Spec.Posp.cal_defaults pfx := by
  unfold CaL.channel_params Spec.Posp.cal_defaults; norm_num
theorem CaT_defaults (pfx : String) : CaT.channel_params (α := ℝ) pfx = Spec.Posp.cat_defaults pfx := by
  unfold CaT.channel_params Spec.Posp.cat_defaults; norm_num
theorem Ionotropic_defaults (pfx : String) :
    IonotropicSynapse.synapse_params (α := ℝ) pfx = Spec.AM.defaults pfx := by
  unfold IonotropicSynapse.synapse_params Spec.AM.defaults; norm_num

/-! ### renaming changes only names

The generated kernels take the name prefix as a parameter.  If the states/parameters seen under the new
prefix `q` are those seen under `p` (and the un-prefixed global keys `vt, eNa, eK, eCa` are shared), the
returned values are identical and the returned keys are the renamed ones. -/

section rename
variable (p q : String) (st st' pr pr' : String → ℝ) (dt v : ℝ)
variable (hst : ∀ sfx, st' (q ++ sfx) = st (p ++ sfx)) (hpr : ∀ sfx, pr' (q ++ sfx) = pr (p ++ sfx))
include hst hpr

theorem HH_rename :
    ((HH.update_states q st' dt v pr').map Prod.snd = (HH.update_states p st dt v pr).map Prod.snd
      ∧ (HH.update_states q st' dt v pr').map Prod.fst = ["_m", "_h", "_n"].map (q ++ ·))
    ∧ HH.compute_current q st' v pr' = HH.compute_current p st v pr := by
  simp only [HH.update_states, HH.compute_current, List.map_cons, List.map_nil, hst, hpr, and_self]

theorem Na_rename (h_vt : pr' "vt" = pr "vt") (h_eNa : pr' "eNa" = pr "eNa") :
    ((Na.update_states q st' dt v pr').map Prod.snd = (Na.update_states p st dt v pr).map Prod.snd
      ∧ (Na.update_states q st' dt v pr').map Prod.fst = ["_m", "_h"].map (q ++ ·))
    ∧ Na.compute_current q st' v pr' = Na.compute_current p st v pr := by
  simp only [Na.update_states, Na.compute_current, List.map_cons, List.map_nil, hst, hpr, h_vt, h_eNa, and_self]

theorem K_rename (h_vt : pr' "vt" = pr "vt") (h_eK : pr' "eK" = pr "eK") :
    ((K.update_states q st' dt v pr').map Prod.snd = (K.update_states p st dt v pr).map Prod.snd
      ∧ (K.update_states q st' dt v pr').map Prod.fst = ["_n"].map (q ++ ·))
    ∧ K.compute_current q st' v pr' = K.compute_current p st v pr := by
  simp only [K.update_states, K.compute_current, List.map_cons, List.map_nil, hst, hpr, h_vt, h_eK, and_self]

theorem Km_rename (h_eK : pr' "eK" = pr "eK") :
    ((Km.update_states q st' dt v pr').map Prod.snd = (Km.update_states p st dt v pr).map Prod.snd
      ∧ (Km.update_states q st' dt v pr').map Prod.fst = ["_p"].map (q ++ ·))
    ∧ Km.compute_current q st' v pr' = Km.compute_current p st v pr := by
  simp only [Km.update_states, Km.compute_current, List.map_cons, List.map_nil, hst, hpr, h_eK, and_self]

theorem CaL_rename (h_eCa : pr' "eCa" = pr "eCa") :
    ((CaL.update_states q st' dt v pr').map Prod.snd = (CaL.update_states p st dt v pr).map Prod.snd
      ∧ (CaL.update_states q st' dt v pr').map Prod.fst = ["_q", "_r"].map (q ++ ·))
    ∧ CaL.compute_current q st' v pr' = CaL.compute_current p st v pr := by
  simp only [CaL.update_states, CaL.compute_current, List.map_cons, List.map_nil, hst, hpr, h_eCa, and_self]

theorem CaT_rename (h_eCa : pr' "eCa" = pr "eCa") :
    ((CaT.update_states q st' dt v pr').map Prod.snd = (CaT.update_states p st dt v pr).map Prod.snd
      ∧ (CaT.update_states q st' dt v pr').map Prod.fst = ["_u"].map (q ++ ·))
    ∧ CaT.compute_current q st' v pr' = CaT.compute_current p st v pr := by
  simp only [CaT.update_states, CaT.compute_current, List.map_cons, List.map_nil, hst, hpr, h_eCa, and_self]

end rename

end JaxleyVerif.Props.C04
