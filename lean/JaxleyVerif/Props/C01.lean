/-
C01 — every voltage step is the exact solution of the discretised cable equation.

1. the generated conductance kernels equal the physics of `Spec.Cable` (unit factors 10⁷, 10³, 10⁵ accounted for):
   `couplingCond_eq_spec`, `bpCond_eq_spec`, `impact_eq_spec`, `stim_conversion`, `couplingCond_symmetric` (the two about
   `compute_coupling_cond` through `couplingCond_mul_area`: kernel × membrane area = 10¹¹·G₁₂, which is symmetric)
2. the cable system has at most one solution (`specsys_unique`, maximum principle on any finite node set)
3. the abstract Hines elimination solves every tree system with non-zero pivots (`hines_solves`), and the pivots
   of every weakly row-dominant Z-matrix whose rows are strict or coupled to their parent are non-zero (`hines_pivots_pos`; positive by `pivot_bound`, `bound_pos`)
4. Crank–Nicolson as implemented (`2·bwd(dt/2) − v`) is the trapezoidal rule (`cn_from_half_step`)
5. tridiax's Thomas routines on one padded slot of the code-shaped solver (`Model.SolveJaxley`), all inputs, any field:
   `thomas_triang_pivots`, `thomas_triang_frame`, `padding_irrelevant`, `thomas_slot_solves`; every branch-point step is a
   solution-set preserving row operation (`bp_*_row`)
6. the whole custom solver, for every well-formed indexer + level schedule (`wfB`, decidable, evaluated by the driver on every
   captured schedule) and non-vanishing pivots (`PivOK`, decided by `pivOkB`: `pivot_check_sound`): `custom_solver_correct`,
   `custom_solver_unique`; for cable-like arrays (`Dominant`) the pivot hypothesis is a theorem:
   `custom_solver_pivots_of_dominant`, `custom_solver_correct_cable`
7. the array assembly of `step_voltage_implicit_with_jaxley_spsolve` (`assembleJ` of `Model/AssembleJaxley.lean`) for every well-formed edge
   table (`edgesWfB`, decidable, evaluated on every captured table): `jaxley_arrays_denote_physical_system` (the same matrix the
   `jax.sparse` backend assembles), `jaxley_arrays_dominant` and hence `jaxley_backend_exact` with no pivot hypothesis — for `dt > 0`,
   positive conductances and membrane slopes `vt ≥ 0` (a channel whose current has a NEGATIVE slope in `v`, such as CaT below its
   reversal potential, is outside: the diagonal may then lose dominance)
The code-shaped assembly `Model.Cable.assemble` is tied to the implementation by the correspondence harness, and its
exact rational solution is checked against `Spec.Cable` with residual exactly 0 on every generated case.
-/
import JaxleyVerif.Lemmas.RealInst
import JaxleyVerif.Lemmas.HinesPivots
import JaxleyVerif.Lemmas.MaxPrinciple
import JaxleyVerif.Lemmas.SolveJaxley
import JaxleyVerif.Lemmas.SolveJaxleyGlobal
import JaxleyVerif.Lemmas.SolveJaxleyDominant
import JaxleyVerif.Lemmas.AssembleJaxley
import JaxleyVerif.Gen.Kernels
import JaxleyVerif.Spec.Cable
import Mathlib.Tactic.FieldSimp
import Mathlib.Tactic.NormNum
import Mathlib.Tactic.Module

namespace JaxleyVerif.Props.C01
open JaxleyVerif JaxleyVerif.Gen JaxleyVerif.Spec.Cable

section kernels
variable {r1 r2 ρ1 ρ2 l1 l2 c1 : ℝ}

/-- in absolute units the kernel is the centre-to-centre conductance: `cond(1←2)` times the membrane area `2π·r₁·l₁` (µm²) is
`10¹¹·G₁₂` (`gAxial` does not read the capacitance `c₁`) -/
theorem couplingCond_mul_area (hr1 : 0 < r1) (hr2 : 0 < r2) (hρ1 : 0 < ρ1) (hρ2 : 0 < ρ2) (hl1 : 0 < l1)
    (hl2 : 0 < l2) :
    compute_coupling_cond r1 r2 ρ1 ρ2 l1 l2 * (2 * Real.pi * r1 * l1)
      = 1.0e11 * gAxial ⟨r1, l1, ρ1, c1⟩ ⟨r2, l2, ρ2, c1⟩ := by
  unfold compute_coupling_cond gAxial rHalf
  simp only [haspi_real, sci_lit]
  have hπ := Real.pi_pos
  field_simp
  ring

/-- `compute_coupling_cond(...)/c₁ = 10³·G₁₂ / C₁` : axial conductance between centres per capacitance (1/ms) -/
theorem couplingCond_eq_spec (hr1 : 0 < r1) (hr2 : 0 < r2) (hρ1 : 0 < ρ1) (hρ2 : 0 < ρ2) (hl1 : 0 < l1) (hl2 : 0 < l2)
    (hc : 0 < c1) :
    compute_coupling_cond r1 r2 ρ1 ρ2 l1 l2 / c1
      = 1.0e3 * gAxial ⟨r1, l1, ρ1, c1⟩ ⟨r2, l2, ρ2, c1⟩ / capUF (⟨r1, l1, ρ1, c1⟩ : Comp ℝ) := by
  have hA : 2 * Real.pi * r1 * l1 ≠ 0 := by positivity
  rw [eq_div_of_mul_eq hA (couplingCond_mul_area (c1 := c1) hr1 hr2 hρ1 hρ2 hl1 hl2)]
  -- `C₁ = c₁·(2π·r₁·l₁)·10⁻⁸`: powers of ten only, nothing left to cancel
  unfold capUF areaCm2
  simp only [haspi_real, sci_lit]
  ring

/-- `compute_coupling_cond_branchpoint(...)/c = 10³·G_end / C` -/
theorem bpCond_eq_spec (hr1 : 0 < r1) (hρ1 : 0 < ρ1) (hl1 : 0 < l1) (hc : 0 < c1) :
    compute_coupling_cond_branchpoint r1 ρ1 l1 / c1
      = 1.0e3 * gEnd (⟨r1, l1, ρ1, c1⟩ : Comp ℝ) / capUF (⟨r1, l1, ρ1, c1⟩ : Comp ℝ) := by
  unfold compute_coupling_cond_branchpoint gEnd capUF areaCm2 rHalf
  simp only [haspi_real, sci_lit]
  have hπ := Real.pi_pos
  field_simp
  ring

/-- the branch-point weights are the end conductances up to ONE global constant `κ = 10⁷/(2π)` -/
theorem impact_eq_spec (hr1 : 0 < r1) (hρ1 : 0 < ρ1) (hl1 : 0 < l1) :
    compute_impact_on_node r1 ρ1 l1 * 1000.0 = (1.0e7 / (2 * Real.pi)) * gEnd (⟨r1, l1, ρ1, c1⟩ : Comp ℝ) := by
  unfold compute_impact_on_node gEnd rHalf
  simp only [haspi_real, sci_lit]
  have hπ := Real.pi_pos
  field_simp
  ring

/-- a point current of `I` nA enters the voltage equation as `10⁻³·I / C` (mV/ms), whatever the geometry -/
theorem stim_conversion {I : ℝ} (hr1 : 0 < r1) (hl1 : 0 < l1) (hc : 0 < c1) :
    convert_point_process_to_distributed I r1 l1 / c1 = 1.0e-3 * I / capUF (⟨r1, l1, ρ1, c1⟩ : Comp ℝ) := by
  unfold convert_point_process_to_distributed capUF areaCm2
  simp only [haspi_real, sci_lit]
  ring   -- powers of ten only: nothing cancels, so no hypothesis is used

/-- symmetry after scaling with the capacitance: `C₁·cond(1←2) = C₂·cond(2←1)`, because both are `10¹¹·G₁₂` -/
theorem couplingCond_symmetric (hr1 : 0 < r1) (hr2 : 0 < r2) (hρ1 : 0 < ρ1) (hρ2 : 0 < ρ2) (hl1 : 0 < l1) (hl2 : 0 < l2) :
    compute_coupling_cond r1 r2 ρ1 ρ2 l1 l2 * (2 * Real.pi * r1 * l1)
      = compute_coupling_cond r2 r1 ρ2 ρ1 l2 l1 * (2 * Real.pi * r2 * l2) := by
  rw [couplingCond_mul_area (c1 := 1) hr1 hr2 hρ1 hρ2 hl1 hl2,
    couplingCond_mul_area (c1 := 1) hr2 hr1 hρ2 hρ1 hl2 hl1, gAxial, gAxial, add_comm]

end kernels

/-- the discretised cable system has at most one solution (any finite node set, any admissible weights) -/
theorem specsys_unique {ι : Type} [Fintype ι] [DecidableEq ι] [Nonempty ι] {w : ι → ι → ℝ} {σ : ι → ℝ}
    (h : Cable.Admissible w σ) {x y b : ι → ℝ}
    (hx : ∀ i, Cable.row w σ x i = b i) (hy : ∀ i, Cable.row w σ y i = b i) : x = y :=
  Cable.unique_solution h hx hy

open Model.HTree in
/-- the two-pass elimination returns values satisfying every row of the tree system -/
theorem hines_solves {K : Type} [Field K] (t : Model.HTree K) (h : Piv t) : Holds 0 t := hines_correct 0 t h

open Model.HTree in
/-- for weakly row-dominant Z-matrices whose rows are strictly dominant or coupled to their parent all pivots are
non-zero, hence Hines solves every such system -/
theorem hines_pivots_pos {K : Type} [Field K] [LinearOrder K] [IsStrictOrderedRing K] (t : Model.HTree K) (h : Good t) :
    Piv t ∧ Holds 0 t := ⟨(pivot_bound t h).2, hines_correct 0 t (pivot_bound t h).2⟩

/-- Crank–Nicolson as in `Module.step`: if `h` solves the backward-Euler system with step `dt/2`, then `2h − v` satisfies the
trapezoidal rule, for every LINEAR operator `A`. -/
theorem cn_from_half_step {V : Type} [AddCommGroup V] [Module ℝ V] (A : V →ₗ[ℝ] V) (v b h : V) (dt : ℝ)
    (hh : h + (dt / 2) • A h = v + (dt / 2) • b) :
    (2 • h - v) + (dt / 2) • A (2 • h - v) = v - (dt / 2) • A v + dt • b := by
  rw [A.map_sub, map_nsmul]
  linear_combination (norm := module) (2 : ℝ) • hh

section solver
open JaxleyVerif.Model.SolveJaxley
variable {K : Type} [Field K]

/-- `thomas_triang_upper` on a padded slot `[s, e]`: first row = Schur pivot / right-hand side of the path, other rows normalised -/
theorem thomas_triang_pivots (st : St K) (s e : Nat) (h : s < e) :
    let P := pe st.diags st.lowers st.uppers st.solves e
    let st' := triangSlot st s e
    st'.diags s = (P (e - s)).1 ∧ st'.solves s = (P (e - s)).2 ∧
    (∀ k, k < e - s → st'.diags (e - k) = 1 ∧ st'.lowers (e - k) = st.lowers (e - k) / (P k).1 ∧
        st'.solves (e - k) = (P k).2 / (P k).1) ∧
    (∀ j, s ≤ j → j < e → st'.uppers j = 0) := triangSlot_spec st s e h

/-- identity padding rows behind the last real row `l` of a slot do not change any pivot of the real rows.  `hpad` is not used, and
`hup` only at `j = l`: the last real row reaches into no padding row, whatever these contain (`pe_padding_shift`) -/
theorem padding_irrelevant (d lo up b : Nat → K) (l e k : Nat) (hle : l ≤ e) (hk : k ≤ l)
    (hpad : ∀ j, l < j → j ≤ e → d j = 1 ∧ lo j = 0 ∧ b j = 0) (hup : ∀ j, l ≤ j → j < e → up j = 0) :
    pe d lo up b e (e - l + k) = pe d lo up b l k := pe_padding_shift d lo up b l e k hle hk (hup l le_rfl)

/-- Thomas triangulation followed by back substitution solves the tridiagonal system of the slot (non-zero pivots) -/
theorem thomas_slot_solves (st : St K) (s e : Nat) (h : s ≤ e)
    (hp : ∀ k, k ≤ e - s → (pe st.diags st.lowers st.uppers st.solves e k).1 ≠ 0) :
    let x := (backsubSlot (triangSlot st s e) s e).solves
    ∀ i, s ≤ i → i ≤ e →
      (if s < i then st.lowers i * x (i - 1) else 0) + st.diags i * x i + (if i < e then st.uppers i * x (i + 1) else 0)
        = st.solves i := slot_solve_correct st s e h hp

/-- the triangulation touches nothing outside its slot (branches of one level are independent: `vmap`) -/
theorem thomas_triang_frame (st : St K) (s e j : Nat) (hj : j < s ∨ e < j) :
    (triangSlot st s e).diags j = st.diags j ∧ (triangSlot st s e).lowers j = st.lowers j ∧
    (triangSlot st s e).uppers j = st.uppers j ∧ (triangSlot st s e).solves j = st.solves j := triangSlot_frame st s e j hj

/-- `_eliminate_single_child_lower`: adding `−w/d₀` times the (triangulated) first row `d₀ x + c z = y` to the branch-point row
`D z + w x + rest = S` removes `x`.  This and the next three are the row operations of the four branch-point steps for one branch,
each an instance of `row_add_iff` with the factor the code uses, as in `eclStep_sat`, `epuStep_sat`, `eplStep_sat`, `ecuStep_sat`. -/
theorem bp_child_lower_row (D S w c d0 y x z rest : K) (hd : d0 ≠ 0) (hrow : d0 * x + c * z = y) :
    (D * z + w * x + rest = S) ↔ ((D + (-w / d0) * c) * z + rest = S + (-w / d0) * y) :=
  (row_add_iff hrow (-w / d0) (by linear_combination (-x) * div_mul_cancel₀ (-w) hd)).symm

/-- `_eliminate_single_parent_upper`: subtracting `c/D` times the branch-point row `D z + w x = S` from the parent's last row
`d x + c z + rest = y` removes `z` -/
theorem bp_parent_upper_row (D S w c d y x z rest : K) (hD : D ≠ 0) (hbp : D * z + w * x = S) :
    (d * x + c * z + rest = y) ↔ ((d + -(c / D) * w) * x + rest = y + -(c / D) * S) :=
  (row_add_iff hbp (-(c / D)) (by linear_combination z * div_mul_cancel₀ c hD)).symm

/-- `_eliminate_parents_lower` (back substitution): with the parent's last value known the branch-point row loses its term.  The code
divides by `diags[last]`, which the back substitution of the slot has set to 1; `one` keeps that division in the statement -/
theorem bp_parent_lower_row (D S w y x z one : K) (h1 : one = 1) (hx : one * x = y) :
    (D * z + w * x = S) ↔ (D * z = S + -y * w / one) := by
  subst h1
  exact (row_add_iff hx (-w) (by ring)).symm

/-- `_eliminate_children_upper` (back substitution): with the branch-point value known (`D z = S`, `D ≠ 0`) the child's first row
`d x + c z = y` loses its term -/
theorem bp_child_upper_row (D S c d y x z : K) (hD : D ≠ 0) (hz : D * z = S) :
    (d * x + c * z = y) ↔ (d * x = y + -S * c / D) :=
  (row_add_iff hz (-(c / D)) (by linear_combination z * div_mul_cancel₀ c hD)).symm

/-- non-vacuity: a two-row slot `[[2,1],[1,3]] x = [3,5]` -/
example : (backsubSlot (triangSlot (K := ℚ) ⟨fun i => if i = 0 then 2 else 3, fun _ => 1, fun _ => 1, fun i => if i = 0 then 3 else 5,
    fun _ => 0, fun _ => 0, fun _ => 0, fun _ => 0, fun _ => 0, fun _ => 0⟩ 0 1) 0 1).solves 0 = 4 / 5 := by
  -- the second row normalised to `x₁ + (1/3)·x₀ = 5/3`, then eliminated from the first
  show (3 - 1 * (5 / 3)) / (2 - 1 * (1 / 3)) = (4 / 5 : ℚ)
  norm_num
end solver


section global
open JaxleyVerif.Model.SolveJaxley
variable {K : Type} [Field K]

/-- **Correctness of `_triang_branched` + `_backsub_branched` as modelled, for every schedule**: if indexer and schedule are
structurally well formed (`wfB`: disjoint non-empty slots, every branch once, every branch point with one parent, children and
parents of a level meeting at the same branch points, parents of a level among the children of the previous one) and no divisor
met by the elimination vanishes, the returned arrays satisfy every row — compartment rows of every (padded) slot and branch-point
rows — of the system denoted by the INPUT arrays. -/
theorem custom_solver_correct (ix : Idx) (sc : Sched) (st : St K) (hwf : wfB ix sc = true) (hp : PivOK ix sc st) :
    Sat ix sc st (solve ix sc st).solves (fun p => (solve ix sc st).bpSolves p / (solve ix sc st).bpDiags p) :=
  solve_correct ix sc st hwf hp

/-- … and it is the only solution: any `(x, z)` satisfying the input system agrees with the output on every cell of every slot
and on every branch point -/
theorem custom_solver_unique (ix : Idx) (sc : Sched) (st : St K) (hwf : wfB ix sc = true) (hp : PivOK ix sc st)
    (x z : Nat → K) (hs : Sat ix sc st x z) :
    (∀ b ∈ branchesOf sc, ∀ i, ix.first b ≤ i → i ≤ ix.paddedLast b → x i = (solve ix sc st).solves i) ∧
    (∀ q ∈ pairsP sc, z q.2 = (solve ix sc st).bpSolves q.2 / (solve ix sc st).bpDiags q.2) :=
  solve_unique ix sc st hwf hp x z hs

/-- the Boolean the driver prints as `piv=` decides the pivot hypothesis -/
theorem pivot_check_sound [DecidableEq K] (ix : Idx) (sc : Sched) (st : St K) : pivOkB ix sc st = true ↔ PivOK ix sc st :=
  pivOkB_iff ix sc st

/-- non-vacuity: one root branch (2 cells), one branch point, two children with slots of different padded size -/
example : ∃ (ix : Idx) (sc : Sched) (st : St ℚ), wfB ix sc = true ∧ PivOK ix sc st := ⟨exIx, exSc, exSt, ex_wf, ex_piv⟩
end global

section dominant
open JaxleyVerif.Model.SolveJaxley
variable {K : Type} [Field K] [LinearOrder K] [IsStrictOrderedRing K]

/-- for cable-like arrays (positive diagonals dominating non-positive couplings in every compartment row, branch-point rows
`−(Σ w) z + Σ w_i x_i` with positive weights) no divisor of the elimination vanishes, whatever the schedule -/
theorem custom_solver_pivots_of_dominant (ix : Idx) (sc : Sched) (st : St K) (hwf : wfB ix sc = true) (hd : Dominant ix sc st) :
    PivOK ix sc st := pivOK_of_dominant ix sc st hwf hd

/-- hence the custom solver solves every cable-like system on every well-formed schedule -/
theorem custom_solver_correct_cable (ix : Idx) (sc : Sched) (st : St K) (hwf : wfB ix sc = true) (hd : Dominant ix sc st) :
    Sat ix sc st (solve ix sc st).solves (fun p => (solve ix sc st).bpSolves p / (solve ix sc st).bpDiags p) :=
  solve_correct_of_dominant ix sc st hwf hd

example : ∃ (ix : Idx) (sc : Sched) (st : St ℚ), wfB ix sc = true ∧ Dominant ix sc st := ⟨exIx, exSc, exStD, ex_wf, ex_dominant⟩
end dominant


section assembly
open JaxleyVerif.Model.SolveJaxley

/-- the ten arrays the code assembles denote the physical edge-list system (any field) -/
theorem jaxley_arrays_denote_physical_system {K : Type} [Field K] (ix : Idx) (sc : Sched) (inp : AsmIn K)
    (hwf : wfB ix sc = true) (hew : edgesWfB ix sc inp = true) (xc z : Nat → K) :
    Sat ix sc (assembleJ inp) (padX inp xc) z ↔ PhysSys inp xc z := assembleJ_denotes ix sc inp hwf hew xc z

variable {K : Type} [Field K] [LinearOrder K] [IsStrictOrderedRing K]

/-- for `dt > 0`, positive axial conductances and non-negative membrane slopes the assembled arrays are cable-like -/
theorem jaxley_arrays_dominant (ix : Idx) (sc : Sched) (inp : AsmIn K) (hwf : wfB ix sc = true)
    (hew : edgesWfB ix sc inp = true) (hdt : 0 < inp.dt) (hg : ∀ e ∈ inp.edges, 0 < e.2.2.2)
    (hvt : ∀ i, i < inp.n → 0 ≤ inp.vt i) : Dominant ix sc (assembleJ inp) :=
  assembleJ_dominant ix sc inp hwf hew hdt hg hvt

/-- **the jaxley.* backends, in exact arithmetic**: assembly + triangulation + back substitution + read-back return a solution of
the implicit-Euler cable system given by the edge table, and every solution of that system has these compartment values -/
theorem jaxley_backend_exact (ix : Idx) (sc : Sched) (inp : AsmIn K) (hwf : wfB ix sc = true)
    (hew : edgesWfB ix sc inp = true) (hdt : 0 < inp.dt) (hg : ∀ e ∈ inp.edges, 0 < e.2.2.2)
    (hvt : ∀ i, i < inp.n → 0 ≤ inp.vt i) :
    PhysSys inp (readBack inp (solve ix sc (assembleJ inp)))
      (fun p => (solve ix sc (assembleJ inp)).bpSolves p / (solve ix sc (assembleJ inp)).bpDiags p) ∧
    ∀ xc z, PhysSys inp xc z → ∀ i, i < inp.n → xc i = readBack inp (solve ix sc (assembleJ inp)) i :=
  jaxley_backend_solves_physical_system ix sc inp hwf hew hdt hg hvt

/-- non-vacuity: a 3-branch cell (root 2 compartments, children 1 and 2 compartments: one padding cell), 10 edges -/
example : wfB exIx3 exSc = true ∧ edgesWfB exIx3 exSc exAsm = true := ⟨exAsm_wf, exAsm_ew⟩
end assembly

example : compute_coupling_cond (1:ℝ) 1 100 100 10 10 / 1
    = 1.0e3 * gAxial ⟨1, 10, 100, 1⟩ ⟨1, 10, 100, 1⟩ / capUF (⟨1, 10, 100, 1⟩ : Comp ℝ) :=
  couplingCond_eq_spec (by norm_num) (by norm_num) (by norm_num) (by norm_num) (by norm_num) (by norm_num) (by norm_num)

end JaxleyVerif.Props.C01
