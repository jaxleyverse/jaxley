/-
C05 — forward-mode AD correctness of the dual-number arithmetic of `Prelude/Dual.lean`:
evaluating an expression over `Dual ℝ` computes value and derivative (`evalDual_re`, `dual_eval_is_derivative`); tangent linearity
(`evalDual_eps_linear`); the implicit-step (solve) derivative (`solve_derivative`, `dual_div_solves_tangent_eq`); gradients w.r.t.
shared parameters are sums of per-row partials (`grad_shared_eq_sum`, `grad_shared_eq_sum_fin`).
The generated rate kernels are brought under the first clause in `Props/C05_Kernels.lean`.
-/
import Mathlib.Analysis.SpecialFunctions.ExpDeriv
import Mathlib.Analysis.SpecialFunctions.Log.Deriv
import Mathlib.Analysis.SpecialFunctions.Trigonometric.DerivHyp
import Mathlib.Analysis.Calculus.Deriv.Mul
import Mathlib.Analysis.Calculus.Deriv.Inv
import Mathlib.Analysis.Calculus.Deriv.Add
import Mathlib.Analysis.Calculus.Deriv.Comp
import Mathlib.Analysis.Calculus.Deriv.Prod
import JaxleyVerif.Prelude.Dual
import JaxleyVerif.Lemmas.RealInst

namespace JaxleyVerif.Props.C05
open JaxleyVerif


@[simp] theorem add_re (a b : Dual ℝ) : (a + b).re = a.re + b.re := rfl
@[simp] theorem add_eps (a b : Dual ℝ) : (a + b).eps = a.eps + b.eps := rfl
@[simp] theorem sub_re (a b : Dual ℝ) : (a - b).re = a.re - b.re := rfl
@[simp] theorem sub_eps (a b : Dual ℝ) : (a - b).eps = a.eps - b.eps := rfl
@[simp] theorem neg_re (a : Dual ℝ) : (-a).re = -a.re := rfl
@[simp] theorem neg_eps (a : Dual ℝ) : (-a).eps = -a.eps := rfl
@[simp] theorem mul_re (a b : Dual ℝ) : (a * b).re = a.re * b.re := rfl
@[simp] theorem mul_eps (a b : Dual ℝ) : (a * b).eps = a.re * b.eps + a.eps * b.re := rfl
@[simp] theorem div_re (a b : Dual ℝ) : (a / b).re = a.re / b.re := rfl
@[simp] theorem div_eps (a b : Dual ℝ) :
    (a / b).eps = (a.eps * b.re - a.re * b.eps) / (b.re * b.re) := rfl
@[simp] theorem exp_re (a : Dual ℝ) : (Transc.exp a).re = Real.exp a.re := rfl
@[simp] theorem exp_eps (a : Dual ℝ) : (Transc.exp a).eps = a.eps * Real.exp a.re := rfl
@[simp] theorem log_re (a : Dual ℝ) : (Transc.log a).re = Real.log a.re := rfl
@[simp] theorem log_eps (a : Dual ℝ) : (Transc.log a).eps = a.eps / a.re := rfl
@[simp] theorem tanh_re (a : Dual ℝ) : (Transc.tanh a).re = Real.tanh a.re := rfl
@[simp] theorem tanh_eps (a : Dual ℝ) :
    (Transc.tanh a).eps = a.eps * (1 - Real.tanh a.re * Real.tanh a.re) := by
  show a.eps * (1.0 - Real.tanh a.re * Real.tanh a.re) = _
  rw [lit_one]

-- the language of the rate kernels in ONE variable, the voltage; a kernel's parameters are constants of the term
inductive Ex
  | var
  | const (c : ℝ)
  | add (a b : Ex)
  | sub (a b : Ex)
  | mul (a b : Ex)
  | div (a b : Ex)
  | neg (a : Ex)
  | exp (a : Ex)
  | log (a : Ex)
  | tanh (a : Ex)

noncomputable def eval : Ex → ℝ → ℝ
  | .var, x => x
  | .const c, _ => c
  | .add a b, x => eval a x + eval b x
  | .sub a b, x => eval a x - eval b x
  | .mul a b, x => eval a x * eval b x
  | .div a b, x => eval a x / eval b x
  | .neg a, x => -eval a x
  | .exp a, x => Real.exp (eval a x)
  | .log a, x => Real.log (eval a x)
  | .tanh a, x => Real.tanh (eval a x)

/-- evaluation over dual numbers, using only the instances of `Prelude/Dual.lean` at `α := ℝ` -/
noncomputable def evalDual : Ex → Dual ℝ → Dual ℝ
  | .var, d => d
  | .const c, _ => ⟨c, 0⟩
  | .add a b, d => evalDual a d + evalDual b d
  | .sub a b, d => evalDual a d - evalDual b d
  | .mul a b, d => evalDual a d * evalDual b d
  | .div a b, d => evalDual a d / evalDual b d
  | .neg a, d => -evalDual a d
  | .exp a, d => Transc.exp (evalDual a d)
  | .log a, d => Transc.log (evalDual a d)
  | .tanh a, d => Transc.tanh (evalDual a d)

/-- every denominator is non-zero and every `log` argument is positive at `x` -/
def Defined : Ex → ℝ → Prop
  | .var, _ => True
  | .const _, _ => True
  | .add a b, x => Defined a x ∧ Defined b x
  | .sub a b, x => Defined a x ∧ Defined b x
  | .mul a b, x => Defined a x ∧ Defined b x
  | .div a b, x => Defined a x ∧ Defined b x ∧ eval b x ≠ 0
  | .neg a, x => Defined a x
  | .exp a, x => Defined a x
  | .log a, x => Defined a x ∧ 0 < eval a x
  | .tanh a, x => Defined a x

theorem evalDual_re (e : Ex) (x dx : ℝ) : (evalDual e ⟨x, dx⟩).re = eval e x := by
  induction e with
  | var | const c => rfl
  | add a b iha ihb | sub a b iha ihb | mul a b iha ihb | div a b iha ihb =>
    simp only [evalDual, eval, add_re, sub_re, mul_re, div_re, iha, ihb]
  | neg a iha | exp a iha | log a iha | tanh a iha => simp only [evalDual, eval, neg_re, exp_re, log_re, tanh_re, iha]

/-- Mathlib has the derivatives of `sinh` and `cosh`, not that of `tanh` -/
theorem hasDerivAt_tanh (x : ℝ) : HasDerivAt Real.tanh (1 - Real.tanh x * Real.tanh x) x := by
  have hc : Real.cosh x ≠ 0 := (Real.cosh_pos x).ne'
  rw [funext Real.tanh_eq_sinh_div_cosh]
  refine ((Real.hasDerivAt_sinh x).div (Real.hasDerivAt_cosh x) hc).congr_deriv ?_
  field_simp

/-- C05: evaluating a term of the kernels' language over the dual numbers at `⟨x, 1⟩` yields, in its dual part, the derivative of the
term at `x`, wherever the term is defined -/
theorem dual_eval_is_derivative (e : Ex) (x : ℝ) (h : Defined e x) :
    HasDerivAt (eval e) (evalDual e ⟨x, 1⟩).eps x := by
  induction e with
  | var => exact hasDerivAt_id x
  | const c => exact hasDerivAt_const x c
  | add a b iha ihb => exact (iha h.1).add (ihb h.2)
  | sub a b iha ihb => exact (iha h.1).sub (ihb h.2)
  | mul a b iha ihb =>
    refine ((iha h.1).mul (ihb h.2)).congr_deriv ?_
    simp only [evalDual, mul_eps, evalDual_re]; ring
  | div a b iha ihb =>
    refine ((iha h.1).div (ihb h.2.1) h.2.2).congr_deriv ?_
    simp only [evalDual, div_eps, evalDual_re]; ring
  | neg a iha => exact (iha h).neg
  | exp a iha =>
    refine (iha h).exp.congr_deriv ?_
    simp only [evalDual, exp_eps, evalDual_re]; ring
  | log a iha =>
    refine ((iha h.1).log h.2.ne').congr_deriv ?_
    simp only [evalDual, log_eps, evalDual_re]
  | tanh a iha =>
    refine ((hasDerivAt_tanh (eval a x)).comp x (iha h)).congr_deriv ?_
    simp only [evalDual, tanh_eps, evalDual_re]; ring

/-- the tangent is linear in the seed; unconditional, an algebraic identity of the dual arithmetic -/
theorem evalDual_eps_linear (e : Ex) (x dx : ℝ) :
    (evalDual e ⟨x, dx⟩).eps = dx * (evalDual e ⟨x, 1⟩).eps := by
  induction e with
  | var => exact (mul_one dx).symm
  | const c => exact (mul_zero dx).symm
  | add a b iha ihb | sub a b iha ihb | mul a b iha ihb | div a b iha ihb =>
    simp only [evalDual, add_eps, sub_eps, mul_eps, div_eps, evalDual_re]
    rw [iha, ihb]
    ring
  | neg a iha | exp a iha | log a iha | tanh a iha =>
    simp only [evalDual, neg_eps, exp_eps, log_eps, tanh_eps, evalDual_re]
    rw [iha]
    ring

theorem evalDual_eps_eq_deriv (e : Ex) (x dx : ℝ) (h : Defined e x) :
    (evalDual e ⟨x, dx⟩).eps = dx * deriv (eval e) x := by
  rw [evalDual_eps_linear, (dual_eval_is_derivative e x h).deriv]

/-- the implicit step: `A·x = b ⟹ A·x' = b' − A'·x` -/
theorem solve_derivative (A b : ℝ → ℝ) (A' b' : ℝ) (t : ℝ) (hA : HasDerivAt A A' t)
    (hb : HasDerivAt b b' t) (h0 : A t ≠ 0) :
    HasDerivAt (fun s => b s / A s) ((b' - A' * (b t / A t)) / A t) t := by
  refine (hb.div hA h0).congr_deriv ?_
  field_simp

/-- the tangent of a dual division is the derivative value of `solve_derivative` -/
theorem dual_div_is_solve (a b : Dual ℝ) (h : a.re ≠ 0) :
    (b / a).eps = (b.eps - a.eps * (b.re / a.re)) / a.re := by
  rw [div_eps]
  field_simp

theorem dual_div_solves_tangent_eq (a b : Dual ℝ) (h : a.re ≠ 0) :
    a.re * (b / a).eps = b.eps - a.eps * (b / a).re := by
  rw [dual_div_is_solve a b h, div_re]
  field_simp

/-- the gradient with respect to a parameter shared by two rows is the sum of the two per-row partial derivatives -/
theorem grad_shared_eq_sum (F : ℝ × ℝ → ℝ) (F' : ℝ × ℝ →L[ℝ] ℝ) (θ : ℝ)
    (hF : HasFDerivAt F F' (θ, θ)) :
    HasDerivAt (fun t => F (t, t)) (F' (1, 0) + F' (0, 1)) θ := by
  have hc : HasDerivAt (fun t : ℝ => (t, t)) ((1 : ℝ), (1 : ℝ)) θ :=
    (hasDerivAt_id θ).prodMk (hasDerivAt_id θ)
  -- `f :=` is needed: from the point `(θ, θ)` alone Lean takes the curve to be `Prod.mk θ`
  have := HasFDerivAt.comp_hasDerivAt (f := fun t : ℝ => (t, t)) θ hF hc
  have hlin : F' (1, 1) = F' (1, 0) + F' (0, 1) := by
    rw [← map_add]; simp
  rw [← hlin]
  exact this

/-- `n` rows with parameters `p i`; the rows in the group `S` all receive the shared parameter `t`. -/
def shareParam {n : ℕ} (S : Finset (Fin n)) (p : Fin n → ℝ) (t : ℝ) : Fin n → ℝ :=
  fun i => if i ∈ S then t else p i

theorem grad_shared_eq_sum_fin {n : ℕ} (S : Finset (Fin n)) (p : Fin n → ℝ)
    (F : (Fin n → ℝ) → ℝ) (F' : (Fin n → ℝ) →L[ℝ] ℝ) (θ : ℝ)
    (hF : HasFDerivAt F F' (shareParam S p θ)) :
    HasDerivAt (fun t => F (shareParam S p t)) (∑ i ∈ S, F' (Pi.single i 1)) θ := by
  -- chain rule along `t ↦ shareParam S p t`, whose derivative is the indicator of `S`, that is `∑ i ∈ S, Pi.single i 1`
  have hc : HasDerivAt (fun t : ℝ => shareParam S p t)
      (fun i => if i ∈ S then (1 : ℝ) else 0) θ := by
    rw [hasDerivAt_pi]
    intro i
    unfold shareParam
    by_cases hi : i ∈ S
    · simp only [hi, if_true]; exact hasDerivAt_id θ
    · simp only [hi, if_false]; exact hasDerivAt_const θ (p i)
  have := hF.comp_hasDerivAt θ hc
  have hlin : F' (fun i => if i ∈ S then (1 : ℝ) else 0) = ∑ i ∈ S, F' (Pi.single i 1) := by
    rw [← map_sum]
    congr 1
    funext j
    rw [Finset.sum_apply, Finset.sum_pi_single]
  rw [← hlin]
  exact this

-- `x / (eˣ − 1)` of the rate functions: a term that is undefined at a point, so the theorems above are not vacuous
-- (`eEfun .var` of `Props/C05_Kernels.lean` is the same term with the kernel's literal `1.0`)
def rateEx : Ex := .div .var (.sub (.exp .var) (.const 1))

theorem eval_rateEx (x : ℝ) : eval rateEx x = x / (Real.exp x - 1) := rfl

theorem defined_rateEx_iff (x : ℝ) : Defined rateEx x ↔ x ≠ 0 := by
  simp only [rateEx, Defined, eval, true_and, ne_eq]
  rw [sub_eq_zero, Real.exp_eq_one_iff]

theorem rateEx_dual_eps (x : ℝ) :
    (evalDual rateEx ⟨x, 1⟩).eps
      = ((Real.exp x - 1) - x * Real.exp x) / ((Real.exp x - 1) * (Real.exp x - 1)) := by
  simp [rateEx, evalDual]

theorem rateEx_hasDerivAt (x : ℝ) (hx : x ≠ 0) :
    HasDerivAt (fun y => y / (Real.exp y - 1))
      (((Real.exp x - 1) - x * Real.exp x) / ((Real.exp x - 1) * (Real.exp x - 1))) x := by
  rw [← rateEx_dual_eps]
  exact dual_eval_is_derivative rateEx x ((defined_rateEx_iff x).2 hx)

end JaxleyVerif.Props.C05
