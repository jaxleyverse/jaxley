/-
C18 — modules survive pickling and deep copies unchanged and independent.

No theorem about `pickle`/`deepcopy` is possible.  What the model states is VALUE SEMANTICS: the state of a module is the value
`Mod`; running a further history on a copy is running it on the value, which cannot affect the original value.  The harness checks
that the implementation's copies behave like values (`α(copy) = α(original) = model(h)`, independence under further histories).
-/
import JaxleyVerif.Props.C19

namespace JaxleyVerif.Props.C18
open JaxleyVerif.Model.Ops JaxleyVerif.Props.C19

/-- a copy (the same value) evolves exactly as the original would -/
theorem copy_behaves_as_original (m : Mod) (h2 : List Op) (copy : Mod) (hc : copy = m) :
    h2.foldl step copy = h2.foldl step m := by rw [hc]

/-- running `h ++ h2` is running `h2` on the state reached by `h` (what the harness compares with the edited copy) -/
theorem history_append (m : Mod) (h h2 : List Op) : (h ++ h2).foldl step m = h2.foldl step (h.foldl step m) :=
  List.foldl_append

/-- the invariant also holds for every state reached on the copy -/
theorem copy_stays_consistent (n : Nat) (geom : List (String × Nat)) (h h2 : List Op)
    (hv : ∀ o ∈ h ++ h2, o.Valid n) : WF ((h ++ h2).foldl step (init n geom)) :=
  wf_reachable n geom (h ++ h2) hv

end JaxleyVerif.Props.C18
