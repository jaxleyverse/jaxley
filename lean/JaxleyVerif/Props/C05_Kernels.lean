/-
C05, companion: the GENERATED rate kernels (`Gen/Kernels.lean`) are reflected into the expression language `Ex` of `Props/C05.lean`.
A term is read as a kernel by `evalClip` (the arithmetic of any scalar type, `.exp` as `save_exp`); each generated kernel IS that
reading of a hand-written term, by `rfl`, over ℝ and over the dual numbers, so the reflection breaks when the Python formula
changes (intended). Where no `save_exp` of the term clips (`Unclipped`) the reading agrees with `eval` / `evalDual`; hence running a
generated kernel on dual numbers yields its true derivative there.
-/
import JaxleyVerif.Props.C05
import JaxleyVerif.Lemmas.Gate

namespace JaxleyVerif.Props.C05
open JaxleyVerif JaxleyVerif.Gen Topology

-- every statement lists the unclipped conditions of the whole gate; the derivative of one component needs only its own
set_option linter.unusedVariables false

/-- the term as a kernel over the scalar type `α`: `.exp` is `save_exp`, a real constant `r` is `c r` -/
def evalClip {α : Type} [Add α] [Sub α] [Mul α] [Div α] [Neg α] [OfScientific α] [Min α] [Transc α] (c : ℝ → α) :
    Ex → α → α
  | .var, x => x
  | .const r, _ => c r
  | .add a b, x => evalClip c a x + evalClip c b x
  | .sub a b, x => evalClip c a x - evalClip c b x
  | .mul a b, x => evalClip c a x * evalClip c b x
  | .div a b, x => evalClip c a x / evalClip c b x
  | .neg a, x => -evalClip c a x
  | .exp a, x => save_exp (evalClip c a x)
  | .log a, x => Transc.log (evalClip c a x)
  | .tanh a, x => Transc.tanh (evalClip c a x)

/-- every argument of an `.exp` is below the clip of `save_exp` at `x` -/
def Unclipped : Ex → ℝ → Prop
  | .var, _ => True
  | .const _, _ => True
  | .add a b, x => Unclipped a x ∧ Unclipped b x
  | .sub a b, x => Unclipped a x ∧ Unclipped b x
  | .mul a b, x => Unclipped a x ∧ Unclipped b x
  | .div a b, x => Unclipped a x ∧ Unclipped b x
  | .neg a, x => Unclipped a x
  | .exp a, x => Unclipped a x ∧ eval a x < 20
  | .log a, x => Unclipped a x
  | .tanh a, x => Unclipped a x

/-- the clip on dual numbers: `min` selects by the real part -/
theorem save_exp_dual (d : Dual ℝ) (h : d.re ≤ 20) : save_exp d = Transc.exp d := by
  have h' : ¬(20.0 : ℝ) < d.re := by rw [lit_tenth 20]; exact not_lt.2 h
  exact congrArg Transc.exp (if_neg h')

theorem evalClip_eq_eval (e : Ex) (x : ℝ) (h : Unclipped e x) : evalClip id e x = eval e x := by
  induction e with
  | var | const c => rfl
  | add a b iha ihb | sub a b iha ihb | mul a b iha ihb | div a b iha ihb =>
    simp only [evalClip, eval, iha h.1, ihb h.2]
  | neg a iha | log a iha | tanh a iha => simp only [evalClip, eval, iha h, transc_log_real, transc_tanh_real]
  | exp a iha => simp only [evalClip, eval, iha h.1, save_exp_eq h.2.le]

theorem evalClip_eq_evalDual (e : Ex) (x dx : ℝ) (h : Unclipped e x) :
    evalClip (Dual.mk · 0) e ⟨x, dx⟩ = evalDual e ⟨x, dx⟩ := by
  induction e with
  | var | const c => rfl
  | add a b iha ihb | sub a b iha ihb | mul a b iha ihb | div a b iha ihb =>
    simp only [evalClip, evalDual, iha h.1, ihb h.2]
  | neg a iha | log a iha | tanh a iha => simp only [evalClip, evalDual, iha h]
  | exp a iha =>
    simp only [evalClip, evalDual, iha h.1]
    exact save_exp_dual _ (by rw [evalDual_re]; exact h.2.le)

/-- the unclipped region is open where the term is defined: `eval a` is continuous there, being differentiable -/
theorem eventually_unclipped (e : Ex) (v : ℝ) (hd : Defined e v) (hu : Unclipped e v) : ∀ᶠ w in 𝓝 v, Unclipped e w := by
  induction e with
  | var | const c => exact Filter.Eventually.of_forall fun _ => trivial
  | add a b iha ihb | sub a b iha ihb | mul a b iha ihb => exact (iha hd.1 hu.1).and (ihb hd.2 hu.2)
  | div a b iha ihb => exact (iha hd.1 hu.1).and (ihb hd.2.1 hu.2)
  | neg a iha | tanh a iha => exact iha hd hu
  | log a iha => exact iha hd.1 hu
  | exp a iha =>
    exact (iha hd hu.1).and ((dual_eval_is_derivative a v hd).continuousAt.eventually_lt continuousAt_const hu.2)

theorem evalClip_hasDerivAt (e : Ex) (v : ℝ) (hd : Defined e v) (hu : Unclipped e v) :
    HasDerivAt (evalClip id e) (evalClip (Dual.mk · 0) e ⟨v, 1⟩).eps v := by
  rw [evalClip_eq_evalDual e v 1 hu]
  exact (dual_eval_is_derivative e v hd).congr_of_eventuallyEq
    ((eventually_unclipped e v hd hu).mono fun w hw => evalClip_eq_eval e w hw)

theorem gate_fst_hasDerivAt {g : ℝ → ℝ × ℝ} {gd : Dual ℝ → Dual ℝ × Dual ℝ} {eA eB : Ex}
    (hr : ∀ v, g v = (evalClip id eA v, evalClip id eB v))
    (hd : ∀ d, gd d = (evalClip (Dual.mk · 0) eA d, evalClip (Dual.mk · 0) eB d))
    {v : ℝ} (hdef : Defined eA v) (hu : Unclipped eA v) : HasDerivAt (fun v => (g v).1) (gd ⟨v, 1⟩).1.eps v := by
  simp only [hr, hd]
  exact evalClip_hasDerivAt eA v hdef hu

theorem gate_snd_hasDerivAt {g : ℝ → ℝ × ℝ} {gd : Dual ℝ → Dual ℝ × Dual ℝ} {eA eB : Ex}
    (hr : ∀ v, g v = (evalClip id eA v, evalClip id eB v))
    (hd : ∀ d, gd d = (evalClip (Dual.mk · 0) eA d, evalClip (Dual.mk · 0) eB d))
    {v : ℝ} (hdef : Defined eB v) (hu : Unclipped eB v) : HasDerivAt (fun v => (g v).2) (gd ⟨v, 1⟩).2.eps v := by
  simp only [hr, hd]
  exact evalClip_hasDerivAt eB v hdef hu

/-- `_vtrap x y = x / (save_exp (x / y) - 1.0)` -/
def eVtrap (x : Ex) (y : ℝ) : Ex := .div x (.sub (.exp (.div x (.const y))) (.const 1.0))
/-- `efun x = x / (save_exp x - 1.0)` -/
def eEfun (x : Ex) : Ex := .div x (.sub (.exp x) (.const 1.0))

theorem defined_eVtrap (x : Ex) (y v : ℝ) : Defined (eVtrap x y) v ↔ Defined x v ∧ y ≠ 0 ∧ eval x v ≠ 0 := by
  -- `e^(a/y) − 1 ≠ 0 ⇔ a/y ≠ 0 ⇔ a ≠ 0 ∧ y ≠ 0`; the rest is propositional
  simp only [eVtrap, Defined, eval, true_and, and_true, lit_one, ne_eq, sub_eq_zero, Real.exp_eq_one_iff, div_eq_zero_iff, not_or]
  tauto

theorem defined_eEfun (x : Ex) (v : ℝ) : Defined (eEfun x) v ↔ Defined x v ∧ eval x v ≠ 0 := by
  simp only [eEfun, Defined, eval, and_true, lit_one, ne_eq, sub_eq_zero, Real.exp_eq_one_iff, and_self_left]

theorem unclipped_eVtrap (x : Ex) (y v : ℝ) : Unclipped (eVtrap x y) v ↔ Unclipped x v ∧ eval x v / y < 20 := by
  simp only [eVtrap, Unclipped, eval, and_true, and_self_left]

theorem unclipped_eEfun (x : Ex) (v : ℝ) : Unclipped (eEfun x) v ↔ Unclipped x v ∧ eval x v < 20 := by
  simp only [eEfun, Unclipped, and_true, and_self_left]

def eHHmA : Ex := .mul (.const 0.1) (eVtrap (.neg (.add .var (.const 40.0))) 10.0)
def eHHmB : Ex := .mul (.const 4.0) (.exp (.div (.neg (.add .var (.const 65.0))) (.const 18.0)))

-- `by rfl`, not `rfl`: Lean unfolds a term-mode `rfl` a second time, to decide whether `dsimp` may use the theorem, and
-- unfolding a kernel over the dual numbers is slow
theorem HH_m_gate_real (v : ℝ) : HH.m_gate v = (evalClip id eHHmA v, evalClip id eHHmB v) := by rfl

theorem HH_m_gate_dual (d : Dual ℝ) :
    HH.m_gate d = (evalClip (Dual.mk · 0) eHHmA d, evalClip (Dual.mk · 0) eHHmB d) := by rfl

/-- C05 for the rate kernels: running the generated `HH.m_gate` on dual numbers yields the derivative of `alpha_m`, where no
`save_exp` clips and away from the removable singularity; likewise for each component of the other nine gates below -/
theorem HH_m_alpha_deriv (v : ℝ) (h1 : (-(v + 40)) / 10 < 20) (_h2 : (-(v + 65)) / 18 < 20) (hv : v ≠ -40) :
    HasDerivAt (fun v => (HH.m_gate v).1) ((HH.m_gate (⟨v, 1⟩ : Dual ℝ)).1.eps) v := by
  refine gate_fst_hasDerivAt HH_m_gate_real HH_m_gate_dual ?_ ?_
  · simp only [eHHmA, defined_eVtrap, Defined, eval, true_and, lit_tenth 40]
    exact ⟨sci_lit_ne_zero, neg_ne_zero.2 fun h => hv (eq_neg_of_add_eq_zero_left h)⟩
  · simpa only [eHHmA, unclipped_eVtrap, Unclipped, eval, true_and, lit_tenth 40, lit_tenth 10] using h1

theorem HH_m_beta_deriv (v : ℝ) (h1 : (-(v + 40)) / 10 < 20) (_h2 : (-(v + 65)) / 18 < 20) :
    HasDerivAt (fun v => (HH.m_gate v).2) ((HH.m_gate (⟨v, 1⟩ : Dual ℝ)).2.eps) v := by
  refine gate_snd_hasDerivAt HH_m_gate_real HH_m_gate_dual ?_ ?_
  · simp only [eHHmB, Defined, eval, true_and, ne_eq, sci_lit_ne_zero, not_false_eq_true]
  · simpa only [eHHmB, Unclipped, eval, true_and, lit_tenth 65, lit_tenth 18] using _h2

def eHHhA : Ex := .mul (.const 0.07) (.exp (.div (.neg (.add .var (.const 65.0))) (.const 20.0)))
def eHHhB : Ex := .div (.const 1.0) (.add (.exp (.div (.neg (.add .var (.const 35.0))) (.const 10.0))) (.const 1.0))

theorem HH_h_gate_real (v : ℝ) : HH.h_gate v = (evalClip id eHHhA v, evalClip id eHHhB v) := by rfl

theorem HH_h_gate_dual (d : Dual ℝ) :
    HH.h_gate d = (evalClip (Dual.mk · 0) eHHhA d, evalClip (Dual.mk · 0) eHHhB d) := by rfl

theorem HH_h_alpha_deriv (v : ℝ) (h1 : (-(v + 65)) / 20 < 20) (h2 : (-(v + 35)) / 10 < 20) :
    HasDerivAt (fun v => (HH.h_gate v).1) ((HH.h_gate (⟨v, 1⟩ : Dual ℝ)).1.eps) v := by
  refine gate_fst_hasDerivAt HH_h_gate_real HH_h_gate_dual ?_ ?_
  · simp only [eHHhA, Defined, eval, true_and, ne_eq, sci_lit_ne_zero, not_false_eq_true]
  · simpa only [eHHhA, Unclipped, eval, true_and, lit_tenth 65, lit_tenth 20] using h1

theorem HH_h_beta_deriv (v : ℝ) (h1 : (-(v + 65)) / 20 < 20) (h2 : (-(v + 35)) / 10 < 20) :
    HasDerivAt (fun v => (HH.h_gate v).2) ((HH.h_gate (⟨v, 1⟩ : Dual ℝ)).2.eps) v := by
  refine gate_snd_hasDerivAt HH_h_gate_real HH_h_gate_dual ?_ ?_
  · simp only [eHHhB, Defined, eval, true_and, and_true]
    exact ⟨sci_lit_ne_zero, by positivity⟩
  · simpa only [eHHhB, Unclipped, eval, true_and, and_true, lit_tenth 35, lit_tenth 10] using h2

def eHHnA : Ex := .mul (.const 0.01) (eVtrap (.neg (.add .var (.const 55.0))) 10.0)
def eHHnB : Ex := .mul (.const 0.125) (.exp (.div (.neg (.add .var (.const 65.0))) (.const 80.0)))

theorem HH_n_gate_real (v : ℝ) : HH.n_gate v = (evalClip id eHHnA v, evalClip id eHHnB v) := by rfl

theorem HH_n_gate_dual (d : Dual ℝ) :
    HH.n_gate d = (evalClip (Dual.mk · 0) eHHnA d, evalClip (Dual.mk · 0) eHHnB d) := by rfl

theorem HH_n_alpha_deriv (v : ℝ) (h1 : (-(v + 55)) / 10 < 20) (h2 : (-(v + 65)) / 80 < 20) (hv : v ≠ -55) :
    HasDerivAt (fun v => (HH.n_gate v).1) ((HH.n_gate (⟨v, 1⟩ : Dual ℝ)).1.eps) v := by
  refine gate_fst_hasDerivAt HH_n_gate_real HH_n_gate_dual ?_ ?_
  · simp only [eHHnA, defined_eVtrap, Defined, eval, true_and, lit_tenth 55]
    exact ⟨sci_lit_ne_zero, neg_ne_zero.2 fun h => hv (eq_neg_of_add_eq_zero_left h)⟩
  · simpa only [eHHnA, unclipped_eVtrap, Unclipped, eval, true_and, lit_tenth 55, lit_tenth 10] using h1

theorem HH_n_beta_deriv (v : ℝ) (h1 : (-(v + 55)) / 10 < 20) (h2 : (-(v + 65)) / 80 < 20) :
    HasDerivAt (fun v => (HH.n_gate v).2) ((HH.n_gate (⟨v, 1⟩ : Dual ℝ)).2.eps) v := by
  refine gate_snd_hasDerivAt HH_n_gate_real HH_n_gate_dual ?_ ?_
  · simp only [eHHnB, Defined, eval, true_and, ne_eq, sci_lit_ne_zero, not_false_eq_true]
  · simpa only [eHHnB, Unclipped, eval, true_and, lit_tenth 65, lit_tenth 80] using h2

-- a parameter of a kernel (`vt`, `taumax`, `vx`) is a real constant of the term, and `⟨vt, 0⟩` on the dual side
def eKnA (vt : ℝ) : Ex :=
  .div (.mul (.const 0.032) (eEfun (.mul (.neg (.const 0.2)) (.sub (.sub .var (.const vt)) (.const 15.0))))) (.const 0.2)
def eKnB (vt : ℝ) : Ex :=
  .mul (.const 0.5) (.exp (.div (.neg (.sub (.sub .var (.const vt)) (.const 10.0))) (.const 40.0)))

theorem K_n_gate_real (v vt : ℝ) : K.n_gate v vt = (evalClip id (eKnA vt) v, evalClip id (eKnB vt) v) := by rfl

theorem K_n_gate_dual (d : Dual ℝ) (vt : ℝ) :
    K.n_gate d ⟨vt, 0⟩ = (evalClip (Dual.mk · 0) (eKnA vt) d, evalClip (Dual.mk · 0) (eKnB vt) d) := by rfl

theorem K_n_alpha_deriv (v vt : ℝ) (h1 : (-0.2) * ((v - vt) - 15) < 20) (h2 : (-((v - vt) - 10)) / 40 < 20)
    (hv : v - vt ≠ 15) :
    HasDerivAt (fun v => (K.n_gate v vt).1) ((K.n_gate (⟨v, 1⟩ : Dual ℝ) ⟨vt, 0⟩).1.eps) v := by
  refine gate_fst_hasDerivAt (K_n_gate_real · vt) (K_n_gate_dual · vt) ?_ ?_
  · simp only [eKnA, defined_eEfun, Defined, eval, true_and, lit_tenth 15]
    exact ⟨mul_ne_zero (neg_ne_zero.2 sci_lit_ne_zero) (sub_ne_zero.2 hv), sci_lit_ne_zero⟩
  · simpa only [eKnA, unclipped_eEfun, Unclipped, eval, true_and, and_true, lit_tenth 15] using h1

theorem K_n_beta_deriv (v vt : ℝ) (h1 : (-0.2) * ((v - vt) - 15) < 20) (h2 : (-((v - vt) - 10)) / 40 < 20) :
    HasDerivAt (fun v => (K.n_gate v vt).2) ((K.n_gate (⟨v, 1⟩ : Dual ℝ) ⟨vt, 0⟩).2.eps) v := by
  refine gate_snd_hasDerivAt (K_n_gate_real · vt) (K_n_gate_dual · vt) ?_ ?_
  · simp only [eKnB, Defined, eval, true_and, ne_eq, sci_lit_ne_zero, not_false_eq_true]
  · simpa only [eKnB, Unclipped, eval, true_and, lit_tenth 10, lit_tenth 40] using h2

def eNamA (vt : ℝ) : Ex :=
  .div (.mul (.const 0.32) (eEfun (.mul (.neg (.const 0.25)) (.sub (.sub .var (.const vt)) (.const 13.0))))) (.const 0.25)
def eNamB (vt : ℝ) : Ex :=
  .div (.mul (.const 0.28) (eEfun (.mul (.const 0.2) (.sub (.sub .var (.const vt)) (.const 40.0))))) (.const 0.2)

theorem Na_m_gate_real (v vt : ℝ) : Na.m_gate v vt = (evalClip id (eNamA vt) v, evalClip id (eNamB vt) v) := by rfl

theorem Na_m_gate_dual (d : Dual ℝ) (vt : ℝ) :
    Na.m_gate d ⟨vt, 0⟩ = (evalClip (Dual.mk · 0) (eNamA vt) d, evalClip (Dual.mk · 0) (eNamB vt) d) := by rfl

theorem Na_m_alpha_deriv (v vt : ℝ) (h1 : (-0.25) * ((v - vt) - 13) < 20) (h2 : 0.2 * ((v - vt) - 40) < 20)
    (hv : v - vt ≠ 13) :
    HasDerivAt (fun v => (Na.m_gate v vt).1) ((Na.m_gate (⟨v, 1⟩ : Dual ℝ) ⟨vt, 0⟩).1.eps) v := by
  refine gate_fst_hasDerivAt (Na_m_gate_real · vt) (Na_m_gate_dual · vt) ?_ ?_
  · simp only [eNamA, defined_eEfun, Defined, eval, true_and, lit_tenth 13]
    exact ⟨mul_ne_zero (neg_ne_zero.2 sci_lit_ne_zero) (sub_ne_zero.2 hv), sci_lit_ne_zero⟩
  · simpa only [eNamA, unclipped_eEfun, Unclipped, eval, true_and, and_true, lit_tenth 13] using h1

theorem Na_m_beta_deriv (v vt : ℝ) (h1 : (-0.25) * ((v - vt) - 13) < 20) (h2 : 0.2 * ((v - vt) - 40) < 20)
    (hv : v - vt ≠ 40) :
    HasDerivAt (fun v => (Na.m_gate v vt).2) ((Na.m_gate (⟨v, 1⟩ : Dual ℝ) ⟨vt, 0⟩).2.eps) v := by
  refine gate_snd_hasDerivAt (Na_m_gate_real · vt) (Na_m_gate_dual · vt) ?_ ?_
  · simp only [eNamB, defined_eEfun, Defined, eval, true_and, lit_tenth 40]
    exact ⟨mul_ne_zero sci_lit_ne_zero (sub_ne_zero.2 hv), sci_lit_ne_zero⟩
  · simpa only [eNamB, unclipped_eEfun, Unclipped, eval, true_and, and_true, lit_tenth 40] using h2

def eNahA (vt : ℝ) : Ex :=
  .mul (.const 0.128) (.exp (.div (.neg (.sub (.sub .var (.const vt)) (.const 17.0))) (.const 18.0)))
def eNahB (vt : ℝ) : Ex :=
  .div (.const 4.0) (.add (.exp (.div (.neg (.sub (.sub .var (.const vt)) (.const 40.0))) (.const 5.0))) (.const 1.0))

theorem Na_h_gate_real (v vt : ℝ) : Na.h_gate v vt = (evalClip id (eNahA vt) v, evalClip id (eNahB vt) v) := by rfl

theorem Na_h_gate_dual (d : Dual ℝ) (vt : ℝ) :
    Na.h_gate d ⟨vt, 0⟩ = (evalClip (Dual.mk · 0) (eNahA vt) d, evalClip (Dual.mk · 0) (eNahB vt) d) := by rfl

theorem Na_h_alpha_deriv (v vt : ℝ) (h1 : (-((v - vt) - 17)) / 18 < 20) (h2 : (-((v - vt) - 40)) / 5 < 20) :
    HasDerivAt (fun v => (Na.h_gate v vt).1) ((Na.h_gate (⟨v, 1⟩ : Dual ℝ) ⟨vt, 0⟩).1.eps) v := by
  refine gate_fst_hasDerivAt (Na_h_gate_real · vt) (Na_h_gate_dual · vt) ?_ ?_
  · simp only [eNahA, Defined, eval, true_and, ne_eq, sci_lit_ne_zero, not_false_eq_true]
  · simpa only [eNahA, Unclipped, eval, true_and, lit_tenth 17, lit_tenth 18] using h1

theorem Na_h_beta_deriv (v vt : ℝ) (h1 : (-((v - vt) - 17)) / 18 < 20) (h2 : (-((v - vt) - 40)) / 5 < 20) :
    HasDerivAt (fun v => (Na.h_gate v vt).2) ((Na.h_gate (⟨v, 1⟩ : Dual ℝ) ⟨vt, 0⟩).2.eps) v := by
  refine gate_snd_hasDerivAt (Na_h_gate_real · vt) (Na_h_gate_dual · vt) ?_ ?_
  · simp only [eNahB, Defined, eval, true_and, and_true]
    exact ⟨sci_lit_ne_zero, by positivity⟩
  · simpa only [eNahB, Unclipped, eval, true_and, and_true, lit_tenth 40, lit_tenth 5] using h2

def eCaLqA : Ex :=
  .mul (.mul (.const 0.055) (eEfun (.div (.sub (.neg .var) (.const 27.0)) (.const 3.8)))) (.const 3.8)
def eCaLqB : Ex := .mul (.const 0.94) (.exp (.div (.sub (.neg .var) (.const 75.0)) (.const 17.0)))

theorem CaL_q_gate_real (v : ℝ) : CaL.q_gate v = (evalClip id eCaLqA v, evalClip id eCaLqB v) := by rfl

theorem CaL_q_gate_dual (d : Dual ℝ) :
    CaL.q_gate d = (evalClip (Dual.mk · 0) eCaLqA d, evalClip (Dual.mk · 0) eCaLqB d) := by rfl

theorem CaL_q_alpha_deriv (v : ℝ) (h1 : ((-v) - 27) / 3.8 < 20) (h2 : ((-v) - 75) / 17 < 20) (hv : v ≠ -27) :
    HasDerivAt (fun v => (CaL.q_gate v).1) ((CaL.q_gate (⟨v, 1⟩ : Dual ℝ)).1.eps) v := by
  refine gate_fst_hasDerivAt CaL_q_gate_real CaL_q_gate_dual ?_ ?_
  · simp only [eCaLqA, defined_eEfun, Defined, eval, true_and, and_true, lit_tenth 27]
    exact ⟨sci_lit_ne_zero, div_ne_zero (sub_ne_zero.2 fun h => hv (neg_eq_iff_eq_neg.1 h)) sci_lit_ne_zero⟩
  · simpa only [eCaLqA, unclipped_eEfun, Unclipped, eval, true_and, and_true, lit_tenth 27] using h1

theorem CaL_q_beta_deriv (v : ℝ) (h1 : ((-v) - 27) / 3.8 < 20) (h2 : ((-v) - 75) / 17 < 20) :
    HasDerivAt (fun v => (CaL.q_gate v).2) ((CaL.q_gate (⟨v, 1⟩ : Dual ℝ)).2.eps) v := by
  refine gate_snd_hasDerivAt CaL_q_gate_real CaL_q_gate_dual ?_ ?_
  · simp only [eCaLqB, Defined, eval, true_and, ne_eq, sci_lit_ne_zero, not_false_eq_true]
  · simpa only [eCaLqB, Unclipped, eval, true_and, lit_tenth 75, lit_tenth 17] using h2

def eCaLrA : Ex := .mul (.const 0.000457) (.exp (.div (.sub (.neg .var) (.const 13.0)) (.const 50.0)))
def eCaLrB : Ex :=
  .div (.const 0.0065) (.add (.exp (.div (.sub (.neg .var) (.const 15.0)) (.const 28.0))) (.const 1.0))

theorem CaL_r_gate_real (v : ℝ) : CaL.r_gate v = (evalClip id eCaLrA v, evalClip id eCaLrB v) := by rfl

theorem CaL_r_gate_dual (d : Dual ℝ) :
    CaL.r_gate d = (evalClip (Dual.mk · 0) eCaLrA d, evalClip (Dual.mk · 0) eCaLrB d) := by rfl

theorem CaL_r_alpha_deriv (v : ℝ) (h1 : ((-v) - 13) / 50 < 20) (h2 : ((-v) - 15) / 28 < 20) :
    HasDerivAt (fun v => (CaL.r_gate v).1) ((CaL.r_gate (⟨v, 1⟩ : Dual ℝ)).1.eps) v := by
  refine gate_fst_hasDerivAt CaL_r_gate_real CaL_r_gate_dual ?_ ?_
  · simp only [eCaLrA, Defined, eval, true_and, ne_eq, sci_lit_ne_zero, not_false_eq_true]
  · simpa only [eCaLrA, Unclipped, eval, true_and, lit_tenth 13, lit_tenth 50] using h1

theorem CaL_r_beta_deriv (v : ℝ) (h1 : ((-v) - 13) / 50 < 20) (h2 : ((-v) - 15) / 28 < 20) :
    HasDerivAt (fun v => (CaL.r_gate v).2) ((CaL.r_gate (⟨v, 1⟩ : Dual ℝ)).2.eps) v := by
  refine gate_snd_hasDerivAt CaL_r_gate_real CaL_r_gate_dual ?_ ?_
  · simp only [eCaLrB, Defined, eval, true_and, and_true]
    exact ⟨sci_lit_ne_zero, by positivity⟩
  · simpa only [eCaLrB, Unclipped, eval, true_and, and_true, lit_tenth 15, lit_tenth 28] using h2

def eKmpA : Ex :=
  .div (.const 1.0) (.add (.const 1.0) (.exp (.mul (.neg (.const 0.1)) (.add .var (.const 35.0)))))
def eKmpB (taumax : ℝ) : Ex :=
  .div (.const taumax) (.add (.mul (.const 3.3) (.exp (.mul (.const 0.05) (.add .var (.const 35.0)))))
    (.exp (.mul (.neg (.const 0.05)) (.add .var (.const 35.0)))))

theorem Km_p_gate_real (v taumax : ℝ) :
    Km.p_gate v taumax = (evalClip id eKmpA v, evalClip id (eKmpB taumax) v) := by rfl

theorem Km_p_gate_dual (d : Dual ℝ) (taumax : ℝ) :
    Km.p_gate d ⟨taumax, 0⟩ = (evalClip (Dual.mk · 0) eKmpA d, evalClip (Dual.mk · 0) (eKmpB taumax) d) := by rfl

theorem Km_p_inf_deriv (v taumax : ℝ) (h1 : (-0.1) * (v + 35) < 20) (h2 : 0.05 * (v + 35) < 20)
    (h3 : (-0.05) * (v + 35) < 20) :
    HasDerivAt (fun v => (Km.p_gate v taumax).1) ((Km.p_gate (⟨v, 1⟩ : Dual ℝ) ⟨taumax, 0⟩).1.eps) v := by
  refine gate_fst_hasDerivAt (Km_p_gate_real · taumax) (Km_p_gate_dual · taumax) ?_ ?_
  · simp only [eKmpA, Defined, eval, true_and]
    positivity
  · simpa only [eKmpA, Unclipped, eval, true_and, lit_tenth 35] using h1

theorem Km_p_tau_deriv (v taumax : ℝ) (h1 : (-0.1) * (v + 35) < 20) (h2 : 0.05 * (v + 35) < 20)
    (h3 : (-0.05) * (v + 35) < 20) :
    HasDerivAt (fun v => (Km.p_gate v taumax).2) ((Km.p_gate (⟨v, 1⟩ : Dual ℝ) ⟨taumax, 0⟩).2.eps) v := by
  refine gate_snd_hasDerivAt (Km_p_gate_real · taumax) (Km_p_gate_dual · taumax) ?_ ?_
  · simp only [eKmpB, Defined, eval, true_and]
    positivity
  · simpa only [eKmpB, Unclipped, eval, true_and, lit_tenth 35] using And.intro h2 h3

def eCaTuA (vx : ℝ) : Ex :=
  .div (.const 1.0) (.add (.const 1.0) (.exp (.div (.add (.add .var (.const vx)) (.const 81.0)) (.const 4.0))))
def eCaTuB (vx : ℝ) : Ex :=
  .div (.add (.const 30.8) (.add (.const 211.4) (.exp (.div (.add (.add .var (.const vx)) (.const 113.2)) (.const 5.0)))))
    (.mul (.const 3.7) (.add (.const 1.0) (.exp (.div (.add (.add .var (.const vx)) (.const 84.0)) (.const 3.2)))))

theorem CaT_u_gate_real (v vx : ℝ) : CaT.u_gate v vx = (evalClip id (eCaTuA vx) v, evalClip id (eCaTuB vx) v) := by rfl

theorem CaT_u_gate_dual (d : Dual ℝ) (vx : ℝ) :
    CaT.u_gate d ⟨vx, 0⟩ = (evalClip (Dual.mk · 0) (eCaTuA vx) d, evalClip (Dual.mk · 0) (eCaTuB vx) d) := by rfl

theorem CaT_u_inf_deriv (v vx : ℝ) (h1 : ((v + vx) + 81) / 4 < 20) (h2 : ((v + vx) + 113.2) / 5 < 20)
    (h3 : ((v + vx) + 84) / 3.2 < 20) :
    HasDerivAt (fun v => (CaT.u_gate v vx).1) ((CaT.u_gate (⟨v, 1⟩ : Dual ℝ) ⟨vx, 0⟩).1.eps) v := by
  refine gate_fst_hasDerivAt (CaT_u_gate_real · vx) (CaT_u_gate_dual · vx) ?_ ?_
  · simp only [eCaTuA, Defined, eval, true_and]
    exact ⟨sci_lit_ne_zero, by positivity⟩
  · simpa only [eCaTuA, Unclipped, eval, true_and, lit_tenth 81, lit_tenth 4] using h1

theorem CaT_u_tau_deriv (v vx : ℝ) (h1 : ((v + vx) + 81) / 4 < 20) (h2 : ((v + vx) + 113.2) / 5 < 20)
    (h3 : ((v + vx) + 84) / 3.2 < 20) :
    HasDerivAt (fun v => (CaT.u_gate v vx).2) ((CaT.u_gate (⟨v, 1⟩ : Dual ℝ) ⟨vx, 0⟩).2.eps) v := by
  refine gate_snd_hasDerivAt (CaT_u_gate_real · vx) (CaT_u_gate_dual · vx) ?_ ?_
  · simp only [eCaTuB, Defined, eval, true_and]
    exact ⟨sci_lit_ne_zero, sci_lit_ne_zero, by positivity⟩
  · simpa only [eCaTuB, Unclipped, eval, true_and, lit_tenth 5, lit_tenth 84] using And.intro h2 h3

end JaxleyVerif.Props.C05
