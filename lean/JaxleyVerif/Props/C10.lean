/-
C10 — all ways of setting a parameter are equivalent and touch only what was selected.

About `Model.Params`: `set`, `data_set` and trainable parameters all end in the scatter `arr.at[inds].set(vals[:, None])`; the file
says which rows a scatter writes and which it leaves, that the out-of-bounds padding of `make_trainable` writes nothing, and that a
later `pstate` entry wins where it overlaps an earlier one.
-/
import JaxleyVerif.Model.Params
import JaxleyVerif.Lemmas.Lists
import JaxleyVerif.Lemmas.Fold

namespace JaxleyVerif.Props.C10
open JaxleyVerif.Model.Params
variable {V : Type}

theorem put_eq_set (arr : List V) (i : Nat) (x : V) : put arr i x = arr.set i x :=
  ite_lt_set arr i x

/-- the inner loop of `scatter`: one value written at every index of a group -/
def putAll (arr : List V) (g : List Nat) (x : V) : List V := g.foldl (fun a i => put a i x) arr

theorem putAll_length (arr : List V) (g : List Nat) (x : V) : (putAll arr g x).length = arr.length :=
  foldl_view_fixed List.length arr (fun a i _ => by rw [put_eq_set, List.length_set])

theorem putAll_get (arr : List V) (g : List Nat) (x : V) (j : Nat) :
    (putAll arr g x)[j]? = if j ∈ g ∧ j < arr.length then some x else arr[j]? := by
  unfold putAll
  induction g generalizing arr with
  | nil => simp
  | cons i is ih =>
    rw [List.foldl_cons, ih, put_eq_set, List.length_set, List.getElem?_set]
    -- a write at `i = j` lands iff in bounds; a later write of the same `x` changes nothing
    by_cases hij : i = j
    · subst hij
      by_cases hi : i < arr.length <;> simp [hi]
    · simp [hij, Ne.symm hij]

theorem scatter_cons (arr : List V) (g : List Nat) (gs : List (List Nat)) (v : V) (vs : List V) :
    scatter arr (g :: gs) (v :: vs) = scatter (putAll arr g v) gs vs := rfl

/-- **frame + value of a scatter with disjoint groups**: row `j` holds `vals[k]` if it belongs to group `k`, and is
untouched if it belongs to no group. -/
theorem scatter_get (arr : List V) : ∀ (inds : List (List Nat)) (vals : List V) (j : Nat),
    inds.length = vals.length → inds.Pairwise (fun g h => ∀ x, x ∈ g → x ∉ h) → j < arr.length →
    ((∀ g ∈ inds, j ∉ g) → (scatter arr inds vals)[j]? = arr[j]?) ∧
    (∀ k (hk : k < inds.length) (hk' : k < vals.length), j ∈ inds[k] → (scatter arr inds vals)[j]? = some vals[k]) := by
  intro inds
  induction inds generalizing arr with
  | nil => exact fun vals j _ _ _ => ⟨fun _ => rfl, fun k hk => absurd hk (Nat.not_lt_zero k)⟩
  | cons g gs ih =>
    intro vals j hlen hdis hj
    cases vals with
    | nil => cases hlen
    | cons v vs =>
      obtain ⟨hg, hgs⟩ := List.pairwise_cons.mp hdis
      -- the first group is written first; the later groups do not touch its rows
      have ih' := ih (putAll arr g v) vs j (Nat.succ.inj hlen) hgs ((putAll_length arr g v).symm ▸ hj)
      rw [scatter_cons]
      refine ⟨fun hno => ?_, fun k hk hk' hmem => ?_⟩
      · rw [ih'.1 fun h hh => hno h (List.mem_cons_of_mem _ hh), putAll_get, if_neg fun h => hno g List.mem_cons_self h.1]
      · cases k with
        | zero => rw [ih'.1 fun h hh => hg h hh j hmem, putAll_get, if_pos ⟨hmem, hj⟩]; rfl
        | succ k => exact ih'.2 k (Nat.lt_of_succ_lt_succ hk) (Nat.lt_of_succ_lt_succ hk') hmem

theorem putAll_append_pad (arr : List V) (g : List Nat) (k n : Nat) (x : V) (h : arr.length ≤ n) :
    putAll arr (g ++ List.replicate k n) x = putAll arr g x := by
  have hn : (putAll arr g x).length ≤ n := Nat.le_trans (Nat.le_of_eq (putAll_length arr g x)) h
  unfold putAll at hn ⊢
  rw [List.foldl_append]
  generalize g.foldl (fun a i => put a i x) arr = b at hn ⊢
  induction k with
  | zero => rfl
  | succ k ih => rw [List.replicate_succ, List.foldl_cons, put_eq_set, List.set_eq_of_length_le hn, ih]

/-- **padding unequal groups with the out-of-bounds index does not change the scattered array** (F2, fixed) -/
theorem padGroups_scatter (arr : List V) (groups : List (List Nat)) (vals : List V) (n : Nat) (h : arr.length ≤ n) :
    scatter arr (padGroups n groups) vals = scatter arr groups vals := by
  unfold padGroups
  -- the pad length plays no role: whatever it is, the padding writes are dropped
  generalize groups.foldl (fun a g => max a g.length) 0 = m
  induction groups generalizing arr vals with
  | nil => rfl
  | cons g gs ih =>
    cases vals with
    | nil => rfl
    | cons v vs =>
      rw [List.map_cons, scatter_cons, scatter_cons, putAll_append_pad arr g _ n v h]
      exact ih _ vs (by rw [putAll_length]; exact h)

/-- `set` ≡ `data_set` ≡ a trainable parameter -/
theorem scatter_eq_set (arr : List V) (rows : List Nat) (x : V) (j : Nat) :
    (scatter arr [rows] [x])[j]? = if j ∈ rows ∧ j < arr.length then some x else arr[j]? :=
  putAll_get arr rows x j

theorem scatter_length (arr : List V) (inds : List (List Nat)) (vals : List V) :
    (scatter arr inds vals).length = arr.length :=
  foldl_view_fixed List.length arr (fun a gv _ => putAll_length a gv.1 gv.2)

theorem applyPstate_length (arr : List V) (ps : List (List (List Nat) × List V)) : (applyPstate arr ps).length = arr.length :=
  foldl_view_fixed List.length arr (fun a p _ => scatter_length a p.1 p.2)

theorem applyPstate_snoc (arr : List V) (ps : List (List (List Nat) × List V)) (rows : List Nat) (x : V) (j : Nat) :
    (applyPstate arr (ps ++ [([rows], [x])]))[j]? =
      if j ∈ rows ∧ j < arr.length then some x else (applyPstate arr ps)[j]? := by
  rw [applyPstate, List.foldl_append]
  exact (scatter_eq_set (applyPstate arr ps) rows x j).trans (by rw [applyPstate_length])

/-- later entries of `pstate` (later `make_trainable` / `data_set` calls) win on the rows they cover -/
theorem applyPstate_last_wins (arr : List V) (ps : List (List (List Nat) × List V)) (rows : List Nat) (x : V) (j : Nat)
    (hj : j ∈ rows) (hlt : j < arr.length) :
    (applyPstate arr (ps ++ [([rows], [x])]))[j]? = some x := by
  rw [applyPstate_snoc, if_pos ⟨hj, hlt⟩]

theorem applyPstate_frame (arr : List V) (ps : List (List (List Nat) × List V)) (rows : List Nat) (x : V) (j : Nat)
    (hj : j ∉ rows) :
    (applyPstate arr (ps ++ [([rows], [x])]))[j]? = (applyPstate arr ps)[j]? := by
  rw [applyPstate_snoc, if_neg fun h => hj h.1]

/-- the F2 witness after the fix: branches with [2,1,3] compartments, trainable radius on branches 0 and 1 -/
example : scatter [1, 1, 1, 1, 1, 1] (padGroups 6 [[0, 1], [2]]) [5, 7] = [5, 5, 7, 1, 1, 1] := by decide

end JaxleyVerif.Props.C10
