/-
C03 — gates stay finite and in [0,1] and follow the exact exponential update.

All statements are about the GENERATED kernels (`JaxleyVerif.Gen`, re-translated from jaxley's source on
every run) over ℝ.  Division by zero is not hidden: the `…_update_states_ok` theorems carry the voltage conditions to which
the `…_defined_iff` theorems reduce the generated `…Defined` predicates of their gates, and the singular voltages are exhibited by
the `…_singular` theorems.
-/
import JaxleyVerif.Lemmas.Gate

namespace JaxleyVerif.Props.C03
open JaxleyVerif JaxleyVerif.Gen JaxleyVerif.Spec

-- the property's three facts about `save_exp` (DESIGN.md, C03, item 1) are `save_exp_eq`, `save_exp_pos`, `save_exp_mono` of
-- Lemmas/Gate; restated here, among the theorems of the property
theorem save_exp_eq_exp_of_le {y : ℝ} (h : y ≤ 20) : save_exp y = Real.exp y := save_exp_eq h
theorem save_exp_positive (y : ℝ) : 0 < save_exp y := save_exp_pos y
theorem save_exp_monotone {a b : ℝ} (h : a ≤ b) : save_exp a ≤ save_exp b := save_exp_mono h

theorem two_rate_gate_ok {x dt a b : ℝ} (hr : 0 < a ∧ 0 < b) (hdt : 0 < dt) (hx : 0 ≤ x ∧ x ≤ 1) :
    GateOK (solve_gate_exponential x dt a b) x dt (xinfOf a b) (tauOf a b) := by
  have hab := add_pos hr.1 hr.2
  have hinf := ratio_mem hr.1 hr.2
  rw [solve_gate_exponential_eq hdt.le hab]
  exact gateOK_closedForm hinf.1.le hinf.2.le (tauOf_pos hab) hdt hx.1 hx.2

theorem inf_gate_ok {x dt sinf tau : ℝ} (hs0 : 0 ≤ sinf) (hs1 : sinf ≤ 1) (htau : 0 < tau) (hdt : 0 < dt)
    (hx : 0 ≤ x ∧ x ≤ 1) :
    GateOK (solve_inf_gate_exponential x dt sinf tau) x dt sinf tau := by
  rw [solve_inf_gate_exponential_eq hdt.le htau]
  exact gateOK_closedForm hs0 hs1 htau hdt hx.1 hx.2

/-! ## exact singular sets; rates of every built-in gate are positive wherever defined

The generated `Defined` predicate of a gate says that the argument of its `efun`/`_vtrap` is not 0; the `…_defined_iff`
theorems solve that for the voltage (the arguments are affine in it).  Positivity needs nothing else: `save_exp` is an `exp`
(`save_exp_def`), the `efun`/`_vtrap` factors are positive, and `positivity` puts them together however the Python source orders
the arithmetic. -/

theorem HH_m_defined_iff {v : ℝ} : HH.m_gate.Defined v ↔ v ≠ -40 := by
  unfold HH.m_gate.Defined
  rw [vtrap_defined_iff sci_lit_pos]
  exact affine_ne_zero_iff (-1) (neg_ne_zero.2 one_ne_zero) (by simp only [sci_lit]; ring1)

theorem HH_m_rates_pos {v : ℝ} (h : HH.m_gate.Defined v) : 0 < (HH.m_gate v).1 ∧ 0 < (HH.m_gate v).2 := by
  have h10 : (0 : ℝ) < 10.0 := sci_lit_pos
  have ha := vtrap_pos ((vtrap_defined_iff h10).mp h) h10
  constructor <;> (simp only [HH.m_gate, save_exp_def]; positivity)

theorem HH_h_rates_pos (v : ℝ) : 0 < (HH.h_gate v).1 ∧ 0 < (HH.h_gate v).2 := by
  constructor <;> (simp only [HH.h_gate, save_exp_def]; positivity)

theorem HH_n_defined_iff {v : ℝ} : HH.n_gate.Defined v ↔ v ≠ -55 := by
  unfold HH.n_gate.Defined
  rw [vtrap_defined_iff sci_lit_pos]
  exact affine_ne_zero_iff (-1) (neg_ne_zero.2 one_ne_zero) (by simp only [sci_lit]; ring1)

theorem HH_n_rates_pos {v : ℝ} (h : HH.n_gate.Defined v) : 0 < (HH.n_gate v).1 ∧ 0 < (HH.n_gate v).2 := by
  have h10 : (0 : ℝ) < 10.0 := sci_lit_pos
  have ha := vtrap_pos ((vtrap_defined_iff h10).mp h) h10
  constructor <;> (simp only [HH.n_gate, save_exp_def]; positivity)

theorem Na_m_defined_iff {v vt : ℝ} : Na.m_gate.Defined v vt ↔ (v ≠ vt + 13 ∧ v ≠ vt + 40) := by
  unfold Na.m_gate.Defined
  simp only [efun_defined_iff]
  exact and_congr (affine_ne_zero_iff (-0.25) (neg_ne_zero.2 sci_lit_ne_zero) (by simp only [sci_lit]; ring1))
    (affine_ne_zero_iff 0.2 sci_lit_ne_zero (by simp only [sci_lit]; ring1))

theorem Na_m_rates_pos {v vt : ℝ} (h : Na.m_gate.Defined v vt) :
    0 < (Na.m_gate v vt).1 ∧ 0 < (Na.m_gate v vt).2 := by
  have ha := efun_pos (efun_defined_iff.mp h.1)
  have hb := efun_pos (efun_defined_iff.mp h.2)
  constructor <;> (simp only [Na.m_gate]; positivity)

theorem Na_h_rates_pos (v vt : ℝ) : 0 < (Na.h_gate v vt).1 ∧ 0 < (Na.h_gate v vt).2 := by
  constructor <;> (simp only [Na.h_gate, save_exp_def]; positivity)

theorem K_n_defined_iff {v vt : ℝ} : K.n_gate.Defined v vt ↔ v ≠ vt + 15 := by
  unfold K.n_gate.Defined
  simp only [efun_defined_iff]
  exact affine_ne_zero_iff (-0.2) (neg_ne_zero.2 sci_lit_ne_zero) (by simp only [sci_lit]; ring1)

theorem K_n_rates_pos {v vt : ℝ} (h : K.n_gate.Defined v vt) : 0 < (K.n_gate v vt).1 ∧ 0 < (K.n_gate v vt).2 := by
  have ha := efun_pos (efun_defined_iff.mp h)
  constructor <;> (simp only [K.n_gate, save_exp_def]; positivity)

theorem CaL_q_defined_iff {v : ℝ} : CaL.q_gate.Defined v ↔ v ≠ -27 := by
  unfold CaL.q_gate.Defined
  simp only [efun_defined_iff]
  exact affine_ne_zero_iff (-1 / 3.8) (div_ne_zero (neg_ne_zero.2 one_ne_zero) sci_lit_ne_zero)
    (by simp only [sci_lit]; ring1)

theorem CaL_q_rates_pos {v : ℝ} (h : CaL.q_gate.Defined v) : 0 < (CaL.q_gate v).1 ∧ 0 < (CaL.q_gate v).2 := by
  have ha := efun_pos (efun_defined_iff.mp h)
  constructor <;> (simp only [CaL.q_gate, save_exp_def]; positivity)

theorem CaL_r_rates_pos (v : ℝ) : 0 < (CaL.r_gate v).1 ∧ 0 < (CaL.r_gate v).2 := by
  constructor <;> (simp only [CaL.r_gate, save_exp_def]; positivity)

theorem Km_p_gate_range {v taumax : ℝ} (ht : 0 < taumax) :
    0 < (Km.p_gate v taumax).1 ∧ (Km.p_gate v taumax).1 < 1 ∧ 0 < (Km.p_gate v taumax).2 := by
  have h : 0 < (Km.p_gate v taumax).1 ∧ (Km.p_gate v taumax).1 < 1 := ratio_mem sci_lit_pos (save_exp_pos _)
  refine ⟨h.1, h.2, ?_⟩
  simp only [Km.p_gate, save_exp_def]
  positivity

theorem CaT_u_gate_range (v vx : ℝ) :
    0 < (CaT.u_gate v vx).1 ∧ (CaT.u_gate v vx).1 < 1 ∧ 0 < (CaT.u_gate v vx).2 := by
  have h : 0 < (CaT.u_gate v vx).1 ∧ (CaT.u_gate v vx).1 < 1 := ratio_mem sci_lit_pos (save_exp_pos _)
  refine ⟨h.1, h.2, ?_⟩
  simp only [CaT.u_gate, save_exp_def]
  positivity

/-! ## the `update_states` of every built-in mechanism returns correct gate updates

Each theorem exhibits the complete returned dictionary (so nothing else is written) and a `GateOK`
certificate for every entry, under the exact non-singularity condition of the mechanism. -/

section
variable (pfx : String) (st pr : String → ℝ) {dt v : ℝ}

theorem HH_update_states_ok (hdt : 0 < dt) (hm : v ≠ -40) (hn : v ≠ -55)
    (h01 : ∀ k, 0 ≤ st k ∧ st k ≤ 1) :
    ∃ m' h' n', HH.update_states pfx st dt v pr
        = [(pfx ++ "_m", m'), (pfx ++ "_h", h'), (pfx ++ "_n", n')] ∧
      GateOK m' (st (pfx ++ "_m")) dt (xinfOf (HH.m_gate v).1 (HH.m_gate v).2) (tauOf (HH.m_gate v).1 (HH.m_gate v).2) ∧
      GateOK h' (st (pfx ++ "_h")) dt (xinfOf (HH.h_gate v).1 (HH.h_gate v).2) (tauOf (HH.h_gate v).1 (HH.h_gate v).2) ∧
      GateOK n' (st (pfx ++ "_n")) dt (xinfOf (HH.n_gate v).1 (HH.n_gate v).2) (tauOf (HH.n_gate v).1 (HH.n_gate v).2) :=
  ⟨_, _, _, rfl,
    two_rate_gate_ok (HH_m_rates_pos (HH_m_defined_iff.mpr hm)) hdt (h01 _),
    two_rate_gate_ok (HH_h_rates_pos v) hdt (h01 _),
    two_rate_gate_ok (HH_n_rates_pos (HH_n_defined_iff.mpr hn)) hdt (h01 _)⟩

theorem Na_update_states_ok (hdt : 0 < dt) (h13 : v ≠ pr "vt" + 13) (h40 : v ≠ pr "vt" + 40)
    (h01 : ∀ k, 0 ≤ st k ∧ st k ≤ 1) :
    ∃ m' h', Na.update_states pfx st dt v pr = [(pfx ++ "_m", m'), (pfx ++ "_h", h')] ∧
      GateOK m' (st (pfx ++ "_m")) dt (xinfOf (Na.m_gate v (pr "vt")).1 (Na.m_gate v (pr "vt")).2)
        (tauOf (Na.m_gate v (pr "vt")).1 (Na.m_gate v (pr "vt")).2) ∧
      GateOK h' (st (pfx ++ "_h")) dt (xinfOf (Na.h_gate v (pr "vt")).1 (Na.h_gate v (pr "vt")).2)
        (tauOf (Na.h_gate v (pr "vt")).1 (Na.h_gate v (pr "vt")).2) :=
  ⟨_, _, rfl,
    two_rate_gate_ok (Na_m_rates_pos (Na_m_defined_iff.mpr ⟨h13, h40⟩)) hdt (h01 _),
    two_rate_gate_ok (Na_h_rates_pos v _) hdt (h01 _)⟩

theorem K_update_states_ok (hdt : 0 < dt) (h15 : v ≠ pr "vt" + 15) (h01 : ∀ k, 0 ≤ st k ∧ st k ≤ 1) :
    ∃ n', K.update_states pfx st dt v pr = [(pfx ++ "_n", n')] ∧
      GateOK n' (st (pfx ++ "_n")) dt (xinfOf (K.n_gate v (pr "vt")).1 (K.n_gate v (pr "vt")).2)
        (tauOf (K.n_gate v (pr "vt")).1 (K.n_gate v (pr "vt")).2) :=
  ⟨_, rfl, two_rate_gate_ok (K_n_rates_pos (K_n_defined_iff.mpr h15)) hdt (h01 _)⟩

theorem CaL_update_states_ok (hdt : 0 < dt) (hq : v ≠ -27) (h01 : ∀ k, 0 ≤ st k ∧ st k ≤ 1) :
    ∃ q' r', CaL.update_states pfx st dt v pr = [(pfx ++ "_q", q'), (pfx ++ "_r", r')] ∧
      GateOK q' (st (pfx ++ "_q")) dt (xinfOf (CaL.q_gate v).1 (CaL.q_gate v).2) (tauOf (CaL.q_gate v).1 (CaL.q_gate v).2) ∧
      GateOK r' (st (pfx ++ "_r")) dt (xinfOf (CaL.r_gate v).1 (CaL.r_gate v).2) (tauOf (CaL.r_gate v).1 (CaL.r_gate v).2) :=
  ⟨_, _, rfl,
    two_rate_gate_ok (CaL_q_rates_pos (CaL_q_defined_iff.mpr hq)) hdt (h01 _),
    two_rate_gate_ok (CaL_r_rates_pos v) hdt (h01 _)⟩

theorem Km_update_states_ok (hdt : 0 < dt) (ht : 0 < pr (pfx ++ "_taumax")) (h01 : ∀ k, 0 ≤ st k ∧ st k ≤ 1) :
    ∃ p', Km.update_states pfx st dt v pr = [(pfx ++ "_p", p')] ∧
      GateOK p' (st (pfx ++ "_p")) dt (Km.p_gate v (pr (pfx ++ "_taumax"))).1 (Km.p_gate v (pr (pfx ++ "_taumax"))).2 :=
  have h := Km_p_gate_range (v := v) ht
  ⟨_, rfl, inf_gate_ok h.1.le h.2.1.le h.2.2 hdt (h01 _)⟩

theorem CaT_update_states_ok (hdt : 0 < dt) (h01 : ∀ k, 0 ≤ st k ∧ st k ≤ 1) :
    ∃ u', CaT.update_states pfx st dt v pr = [(pfx ++ "_u", u')] ∧
      GateOK u' (st (pfx ++ "_u")) dt (CaT.u_gate v (pr (pfx ++ "_vx"))).1 (CaT.u_gate v (pr (pfx ++ "_vx"))).2 :=
  have h := CaT_u_gate_range v (pr (pfx ++ "_vx"))
  ⟨_, rfl, inf_gate_ok h.1.le h.2.1.le h.2.2 hdt (h01 _)⟩

theorem Leak_update_states_ok : Leak.update_states st dt v pr = [] := rfl

/-- steady state of both graded synapses (`v_th = -35`, `Δ = 10`); their time constant is `(1 − s_∞)/k₋`.  It is the clipped
`Spec.AM.s_inf` (equal for `vpre ≥ −235`, `C04.Ionotropic_update_eq`). -/
noncomputable def synSinf (vpre : ℝ) : ℝ := 1.0 / (1.0 + save_exp ((-35.0 - vpre) / 10.0))

theorem synSinf_mem (vpre : ℝ) : 0 < synSinf vpre ∧ synSinf vpre < 1 :=
  ratio_mem sci_lit_pos (save_exp_pos _)

/-- Both graded synapses inline `solve_inf_gate_exponential` at `s_∞ = synSinf`, `τ = (1 − s_∞)/k₋`; `hs` compares the value the
code returns with that call, up to `ring_nf`: they differ in `1.0`/`1` (and `1.0/40.0`/`1/40`) in `τ`, inside a `save_exp`. -/
theorem syn_gate_ok {s' x dt k vpre : ℝ}
    (hs : s' - solve_inf_gate_exponential x dt (synSinf vpre) ((1 - synSinf vpre) / k) = 0) (hk : 0 < k) (hdt : 0 < dt)
    (hx : 0 ≤ x ∧ x ≤ 1) :
    GateOK s' x dt (synSinf vpre) ((1 - synSinf vpre) / k) := by
  have h := synSinf_mem vpre
  rw [sub_eq_zero.mp hs]
  exact inf_gate_ok h.1.le h.2.le (div_pos (sub_pos.mpr h.2) hk) hdt hx

theorem Ionotropic_update_states_ok {vpre vpost : ℝ} (hdt : 0 < dt) (hk : 0 < pr (pfx ++ "_k_minus"))
    (h01 : ∀ k, 0 ≤ st k ∧ st k ≤ 1) :
    ∃ s', IonotropicSynapse.update_states pfx st dt vpre vpost pr = [(pfx ++ "_s", s')] ∧
      GateOK s' (st (pfx ++ "_s")) dt (synSinf vpre) ((1 - synSinf vpre) / pr (pfx ++ "_k_minus")) :=
  ⟨_, rfl, syn_gate_ok (by simp only [solve_inf_gate_exponential, synSinf, sci_lit]; ring_nf (mode := .raw)) hk hdt
    (h01 _)⟩

theorem TestSynapse_update_states_ok {vpre vpost : ℝ} (hdt : 0 < dt) (h01 : ∀ k, 0 ≤ st k ∧ st k ≤ 1) :
    ∃ c', TestSynapse.update_states pfx st dt vpre vpost pr = [(pfx ++ "_c", c')] ∧
      GateOK c' (st (pfx ++ "_c")) dt (synSinf vpre) ((1 - synSinf vpre) / (1 / 40)) :=
  ⟨_, rfl, syn_gate_ok (by simp only [solve_inf_gate_exponential, synSinf, sci_lit]; ring_nf (mode := .raw))
    (one_div_pos.mpr (by norm_num)) hdt (h01 _)⟩

end

/-! ## the singular voltages (removable 0/0): the generated kernels are NOT defined there

These are the inputs excluded by the hypotheses above; on the implementation they evaluate to NaN
(known finding F4, replayed by the harness). -/

theorem HH_m_singular : ¬ HH.m_gate.Defined (-40 : ℝ) := fun h => HH_m_defined_iff.mp h rfl
theorem HH_n_singular : ¬ HH.n_gate.Defined (-55 : ℝ) := fun h => HH_n_defined_iff.mp h rfl
theorem Na_m_singular_alpha (vt : ℝ) : ¬ Na.m_gate.Defined (vt + 13) vt := fun h => (Na_m_defined_iff.mp h).1 rfl
theorem Na_m_singular_beta (vt : ℝ) : ¬ Na.m_gate.Defined (vt + 40) vt := fun h => (Na_m_defined_iff.mp h).2 rfl
theorem K_n_singular (vt : ℝ) : ¬ K.n_gate.Defined (vt + 15) vt := fun h => K_n_defined_iff.mp h rfl
theorem CaL_q_singular : ¬ CaL.q_gate.Defined (-27 : ℝ) := fun h => CaL_q_defined_iff.mp h rfl

-- the hypotheses of `HH_update_states_ok` are satisfiable by ordinary inputs

example : ((-65 : ℝ) ≠ -40) ∧ ((-65 : ℝ) ≠ -55) ∧ (0 : ℝ) < 0.025 := by norm_num
example : ∃ m' h' n', HH.update_states "HH" (fun _ => (0.2 : ℝ)) 0.025 (-65) (fun _ => 0)
    = [("HH_m", m'), ("HH_h", h'), ("HH_n", n')] ∧ 0 ≤ m' ∧ m' ≤ 1 := by
  obtain ⟨m', h', n', e, hm, _, _⟩ := HH_update_states_ok "HH" (fun _ => (0.2 : ℝ)) (fun _ => 0)
    (dt := 0.025) (v := -65) (by norm_num) (by norm_num) (by norm_num) (fun _ => by norm_num)
  exact ⟨m', h', n', e, hm.mem⟩

end JaxleyVerif.Props.C03
