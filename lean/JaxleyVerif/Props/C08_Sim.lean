/-
The generic theorems about `integrateCore` / `nested` / `Step.step` (C06, C07, C08) instantiated at the WHOLE-SIMULATION model
`Model.Sim`: statements about `Sim.integrate` and `Sim.step` themselves.  Only structure is used — no fact about `Float`.
The last part (the voltage solve is cell-wise) belongs to C12 and is used by `C12_Sim` only; it is audited with C08
(`Audit/C08.lean`).
-/
import JaxleyVerif.Model.Sim
import JaxleyVerif.Props.C07
import JaxleyVerif.Props.C08

namespace JaxleyVerif.Props.Sim
open JaxleyVerif.Model JaxleyVerif.Model.Step

abbrev SimModule := JaxleyVerif.Model.Sim.Module
abbrev nan := JaxleyVerif.Model.Sim.nan

variable (m : SimModule) (solver backend : String) (dt : Float) (nsteps : Nat) (u0 : State Float)
  (cols : List Model.Sim.ExtCol) (recs : List (String × Nat))

/-- the state after `k` steps of the run -/
def stateAfter (exts : List (List (Ext Float))) (k : Nat) : State Float :=
  (exts.take k).foldl (Model.Sim.step m solver dt) (Model.Sim.initState m u0)

/-- the externals of step `k`: sample `k` of every column, zeros once a stimulus has ended -/
def extsAt (k : Nat) : List (Ext Float) :=
  cols.map (fun c => { key := c.key, inds := c.inds, vals := c.rows.getD k (List.replicate c.inds.length 0.0) })

/-- the length of the run decides whether a run is accepted and how many steps it has, not what a step receives -/
theorem fitExternals_eq {exts : List (List (Ext Float))} (h : Model.Sim.fitExternals nsteps cols = some exts) :
    exts = (List.range nsteps).map (extsAt cols) := by
  unfold Model.Sim.fitExternals at h
  split at h
  · cases h
  cases h
  refine List.map_congr_left fun k hk => ?_
  rw [List.map_map]
  refine List.map_congr_left fun c _ => ?_
  simp only [Function.comp, List.getD_eq_getElem?_getD, C08.fitToTmax_get _ _ _ k (List.mem_range.mp hk)]
  rfl

theorem fitExternals_length {exts : List (List (Ext Float))} (h : Model.Sim.fitExternals nsteps cols = some exts) :
    exts.length = nsteps := by
  rw [fitExternals_eq nsteps cols h, List.length_map, List.length_range]

/-- the transposition `integrate` applies to the rows of the core: one trace per recording -/
def traces (rows : List (List Float)) : List (List Float) :=
  (List.range recs.length).map (fun j => rows.map (fun row => row.getD j nan))

theorem traces_getD (rows : List (List Float)) (j : Nat) :
    (traces recs rows).getD j [] = if j < recs.length then rows.map (fun row => row.getD j nan) else [] := by
  unfold traces
  rw [List.getD_eq_getElem?_getD, List.getElem?_map]
  by_cases hj : j < recs.length
  · rw [List.getElem?_range hj, if_pos hj]
    rfl
  · rw [List.getElem?_eq_none (List.length_range ▸ Nat.le_of_not_lt hj), if_neg hj]
    rfl

/-- (C08, shape) `integrate` runs iff the (solver, backend) pair is accepted and every clamp is long enough -/
theorem sim_integrate_some_iff :
    (Model.Sim.integrate m solver backend dt nsteps u0 cols recs).isSome ↔
      (Model.Sim.accepts m solver backend = true ∧ (Model.Sim.fitExternals nsteps cols).isSome) := by
  unfold Model.Sim.integrate
  cases Model.Sim.accepts m solver backend <;> cases Model.Sim.fitExternals nsteps cols <;> simp

theorem sim_integrate_inv {out : List (List Float)}
    (h : Model.Sim.integrate m solver backend dt nsteps u0 cols recs = some out) :
    ∃ exts, Model.Sim.fitExternals nsteps cols = some exts ∧
      out = traces recs (integrateCore (Model.Sim.step m solver dt) (Model.Sim.record m recs) []
        (Model.Sim.initState m u0) exts none).1 := by
  unfold Model.Sim.integrate at h
  split at h
  · cases h
  · split at h
    · cases h
    · rename_i exts he
      exact ⟨exts, he, (Option.some.inj h).symm⟩

theorem sim_integrate_traces {out : List (List Float)} {exts : List (List (Ext Float))}
    (h : Model.Sim.integrate m solver backend dt nsteps u0 cols recs = some out)
    (he : Model.Sim.fitExternals nsteps cols = some exts) :
    out = traces recs (integrateCore (Model.Sim.step m solver dt) (Model.Sim.record m recs) []
      (Model.Sim.initState m u0) exts none).1 := by
  obtain ⟨exts', he', ho⟩ := sim_integrate_inv m solver backend dt nsteps u0 cols recs h
  rw [Option.some.inj (he.symm.trans he'), ho]

/-- (C08, shape) one trace per recording, `nsteps + 1` columns each -/
theorem sim_integrate_shape {out : List (List Float)}
    (h : Model.Sim.integrate m solver backend dt nsteps u0 cols recs = some out) :
    out.length = recs.length ∧ ∀ tr ∈ out, tr.length = nsteps + 1 := by
  obtain ⟨exts, he, rfl⟩ := sim_integrate_inv m solver backend dt nsteps u0 cols recs h
  unfold traces
  refine ⟨by rw [List.length_map, List.length_range], fun tr htr => ?_⟩
  obtain ⟨j, -, rfl⟩ := List.mem_map.mp htr
  rw [List.length_map, integrateCore_none, List.length_map, List.length_scanl, fitExternals_length nsteps cols he]

/-- (C08) recording `j` reads the array of its state at the within-type index (`localInd`), clamped to the last entry as JAX
clamps a gather -/
theorem record_entry (u : State Float) (j : Nat) :
    (Model.Sim.record m recs u)[j]? = recs[j]?.map (fun r =>
      (getArr u r.1).getD (min (Model.Sim.localInd m r.1 r.2) ((getArr u r.1).length - 1)) nan) := by
  unfold Model.Sim.record
  rw [List.getElem?_map]

theorem record_length (u : State Float) : (Model.Sim.record m recs u).length = recs.length :=
  List.length_map _

/-- (C08) **trace `j`, column `k` of `integrate` is recording `j` read from the state after `k` steps** -/
theorem sim_recordings_are_states {out : List (List Float)} {exts : List (List (Ext Float))}
    (h : Model.Sim.integrate m solver backend dt nsteps u0 cols recs = some out)
    (he : Model.Sim.fitExternals nsteps cols = some exts) (j : Nat) (hj : j < recs.length) (k : Nat) (hk : k ≤ nsteps) :
    (out.getD j []).getD k nan = (Model.Sim.record m recs (stateAfter m solver dt u0 exts k)).getD j nan := by
  -- column `k` is read from entry `k` of the trajectory, which is `stateAfter … k`
  rw [sim_integrate_traces m solver backend dt nsteps u0 cols recs h he, integrateCore_none, traces_getD, if_pos hj,
    List.getD_eq_getElem?_getD, List.map_map, List.getElem?_map, List.getElem?_scanl,
    fitExternals_length nsteps cols he, if_pos hk]
  rfl

/-- (C08) column 0 is read from the initial state `get_all_states` -/
theorem stateAfter_zero (exts : List (List (Ext Float))) :
    stateAfter m solver dt u0 exts 0 = Model.Sim.initState m u0 := rfl

/-- (C08) `sim_recordings_are_states` with `record` unfolded -/
theorem sim_recording_value {out : List (List Float)} {exts : List (List (Ext Float))}
    (h : Model.Sim.integrate m solver backend dt nsteps u0 cols recs = some out)
    (he : Model.Sim.fitExternals nsteps cols = some exts) (j : Nat) (hj : j < recs.length) (k : Nat) (hk : k ≤ nsteps) :
    (out.getD j []).getD k nan =
      (getArr (stateAfter m solver dt u0 exts k) recs[j].1).getD
        (min (Model.Sim.localInd m recs[j].1 recs[j].2) ((getArr (stateAfter m solver dt u0 exts k) recs[j].1).length - 1)) nan := by
  rw [sim_recordings_are_states m solver backend dt nsteps u0 cols recs h he j hj k hk, List.getD_eq_getElem?_getD,
    record_entry, List.getElem?_eq_getElem hj]
  rfl

/-- (C08) the state after `k` steps depends on the externals of the steps `0 … k-1` only -/
theorem sim_inputs_timing (exts exts' : List (List (Ext Float))) (k : Nat) (h : exts.take k = exts'.take k) :
    stateAfter m solver dt u0 exts k = stateAfter m solver dt u0 exts' k := by
  unfold stateAfter
  rw [h]

/-- (C08) the externals of step `k` (0-based) are consumed by exactly the step from state `k` to state `k+1` -/
theorem sim_step_consumes (exts : List (List (Ext Float))) (k : Nat) (hk : k < exts.length) :
    stateAfter m solver dt u0 exts (k + 1) = Model.Sim.step m solver dt (stateAfter m solver dt u0 exts k) exts[k] :=
  C08.stim_timing (Model.Sim.step m solver dt) (Model.Sim.initState m u0) exts k hk

/-- (C08) **a longer run reproduces the shorter one** -/
theorem sim_prefix {nsteps' : Nat} {out out' : List (List Float)} (hn : nsteps ≤ nsteps')
    (h : Model.Sim.integrate m solver backend dt nsteps u0 cols recs = some out)
    (h' : Model.Sim.integrate m solver backend dt nsteps' u0 cols recs = some out')
    (j : Nat) (hj : j < recs.length) (k : Nat) (hk : k ≤ nsteps) :
    (out.getD j []).getD k nan = (out'.getD j []).getD k nan := by
  obtain ⟨exts, he, -⟩ := sim_integrate_inv m solver backend dt nsteps u0 cols recs h
  obtain ⟨exts', he', -⟩ := sim_integrate_inv m solver backend dt nsteps' u0 cols recs h'
  rw [sim_recordings_are_states m solver backend dt nsteps u0 cols recs h he j hj k hk,
    sim_recordings_are_states m solver backend dt nsteps' u0 cols recs h' he' j hj k (Nat.le_trans hk hn),
    sim_inputs_timing m solver dt u0 exts exts' k]
  -- the first `k` steps of both runs receive `extsAt cols 0, …, extsAt cols (k - 1)`
  rw [fitExternals_eq nsteps cols he, fitExternals_eq nsteps' cols he', ← List.map_take, ← List.map_take, List.take_range,
    List.take_range, Nat.min_eq_left hk, Nat.min_eq_left (Nat.le_trans hk hn)]

/-- (C07) a run over `xs ++ ys` is a run over `xs` continued from its returned state over `ys` (the duplicated first row of
the second run dropped); the same for every trace -/
theorem sim_integrate_split (s : State Float) (xs ys : List (List (Ext Float))) :
    let core := fun (s : State Float) (zs : List (List (Ext Float))) =>
      integrateCore (Model.Sim.step m solver dt) (Model.Sim.record m recs) [] s zs none
    (core s (xs ++ ys)).1 = (core s xs).1 ++ (core (core s xs).2 ys).1.tail ∧
    (core s (xs ++ ys)).2 = (core (core s xs).2 ys).2 ∧
    ∀ j, (traces recs (core s (xs ++ ys)).1).getD j [] =
      (traces recs (core s xs).1).getD j [] ++ ((traces recs (core (core s xs).2 ys).1).getD j []).tail := by
  intro core
  obtain ⟨h1, h2⟩ := C07.integrate_split (Model.Sim.step m solver dt) (Model.Sim.record m recs) [] s xs ys
  refine ⟨h1, h2, ?_⟩
  intro j
  rw [traces_getD, traces_getD, traces_getD, show (core s (xs ++ ys)).1 = _ from h1]
  split
  · rw [List.map_append, List.map_tail]
  · rfl

/-- (C07) the state returned with `return_states=True` is the state after the last step -/
theorem sim_returned_state (s : State Float) (xs : List (List (Ext Float))) :
    (integrateCore (Model.Sim.step m solver dt) (Model.Sim.record m recs) [] s xs none).2 =
      xs.foldl (Model.Sim.step m solver dt) s := by
  rw [integrateCore_none]

/-- (C06) **checkpointing does not change the result**: the padding steps that fill the run up to `prod(checkpoint_lengths)`
are masked by `is_padding` (`Model.body` keeps the state) and their rows cut off, so the padding input `[]` never reaches
`Sim.step`.  `hls` is not used. -/
theorem sim_checkpoint_invariant (s : State Float) (xs : List (List (Ext Float))) (ls : List Nat) (hls : ls ≠ [])
    (hlen : xs.length ≤ prodL ls) :
    (integrateCore (Model.Sim.step m solver dt) (Model.Sim.record m recs) [] s xs (some ls)).1 =
      (integrateCore (Model.Sim.step m solver dt) (Model.Sim.record m recs) [] s xs none).1 ∧
    (integrateCore (Model.Sim.step m solver dt) (Model.Sim.record m recs) [] s xs (some ls)).2 =
      (integrateCore (Model.Sim.step m solver dt) (Model.Sim.record m recs) [] s xs none).2 := by
  rw [integrateCore_some _ _ _ _ _ ls hlen, integrateCore_none]
  exact ⟨rfl, rfl⟩

/-- the index translation `Sim.step` applies to the externals -/
def toLocal (e : Ext Float) : Ext Float := { e with inds := e.inds.map (Model.Sim.localInd m e.key) }

theorem sim_step_eq (u : State Float) (exts : List (Ext Float)) :
    Model.Sim.step m solver dt u exts =
      Step.step (Model.Sim.mech m dt) (Model.Sim.solve m solver dt) (Model.Sim.iExt m) u (exts.map (toLocal m)) := rfl

theorem localInd_of_not_edge (m : SimModule) (key : String) (h : m.edgeStates.contains key = false) (i : Nat) :
    Model.Sim.localInd m key i = i := by
  unfold Model.Sim.localInd
  rw [h]
  rfl

/-- the last clamp of a state holds after `Sim.step`, at the within-type indices the step uses.  These are a variable `li`
(with `hli`) so that `sim_clamp_v_holds` can put `inds` itself for them without rewriting under the dependent `vals[j]'_`. -/
theorem sim_clamp_holds (u : State Float) (k : String) (hk : k ≠ "i") (pre post : List (Ext Float))
    (inds li : List Nat) (hli : inds.map (Model.Sim.localInd m k) = li) (vals : List Float) (j : Nat)
    (hj : j < li.length) (hv : li.length = vals.length) (hnd : li.Nodup) (hpost : ∀ e ∈ post, e.key ≠ k)
    (hlt : li[j] < (getArr (Model.Sim.step m solver dt u (pre ++ ⟨k, inds, vals⟩ :: post)) k).length) :
    (getArr (Model.Sim.step m solver dt u (pre ++ ⟨k, inds, vals⟩ :: post)) k)[li[j]]? = some (vals[j]'(hv ▸ hj)) := by
  subst hli
  have hmap : (pre ++ (⟨k, inds, vals⟩ : Ext Float) :: post).map (toLocal m) =
      pre.map (toLocal m) ++ ⟨k, inds.map (Model.Sim.localInd m k), vals⟩ :: post.map (toLocal m) := by
    rw [List.map_append, List.map_cons]
    rfl
  have hpost' : ∀ e ∈ post.map (toLocal m), e.key ≠ k := List.forall_mem_map.mpr hpost
  rw [sim_step_eq, hmap] at hlt ⊢
  exact C08.step_clamp_holds _ _ _ u k hk _ _ _ vals j hj hv hnd hpost' hlt

/-- (C08) **a voltage clamp holds** (the write follows the solve); `hloc`: `v` is not edge-indexed, so the step uses `inds` as
they are -/
theorem sim_clamp_v_holds (u : State Float) (pre post : List (Ext Float)) (inds : List Nat) (vals : List Float) (j : Nat)
    (hj : j < inds.length) (hv : inds.length = vals.length) (hnd : inds.Nodup)
    (hloc : m.edgeStates.contains "v" = false) (hpost : ∀ e ∈ post, e.key ≠ "v")
    (hlt : inds[j] < (getArr (Model.Sim.step m solver dt u (pre ++ ⟨"v", inds, vals⟩ :: post)) "v").length) :
    (getArr (Model.Sim.step m solver dt u (pre ++ ⟨"v", inds, vals⟩ :: post)) "v")[inds[j]]? = some (vals[j]'(hv ▸ hj)) :=
  sim_clamp_holds m solver dt u "v" (by decide) pre post inds inds
    ((List.map_congr_left (g := id) fun i _ => localInd_of_not_edge m "v" hloc i).trans (List.map_id inds))
    vals j hj hv hnd hpost hlt

/-- (C08) **a clamp of a non-voltage state is visible in the returned state**: the clamp is written after the mechanism
update, the voltage solve and the voltage clamp only touch `v`.  The clamp lands at the within-type indices
`inds.map (localInd m k)` the step uses.  `hk2` is not used: the statement also holds of `k = "v"`, and `sim_clamp_v_holds` is
that case with `localInd` removed. -/
theorem sim_state_clamp_after_mechanisms (u : State Float) (k : String) (hk1 : k ≠ "i") (hk2 : k ≠ "v")
    (pre post : List (Ext Float)) (inds : List Nat) (vals : List Float) (j : Nat)
    (hj : j < (inds.map (Model.Sim.localInd m k)).length) (hv : (inds.map (Model.Sim.localInd m k)).length = vals.length)
    (hnd : (inds.map (Model.Sim.localInd m k)).Nodup) (hpost : ∀ e ∈ post, e.key ≠ k)
    (hlt : (inds.map (Model.Sim.localInd m k))[j] <
      (getArr (Model.Sim.step m solver dt u (pre ++ ⟨k, inds, vals⟩ :: post)) k).length) :
    (getArr (Model.Sim.step m solver dt u (pre ++ ⟨k, inds, vals⟩ :: post)) k)[(inds.map (Model.Sim.localInd m k))[j]]? =
      some (vals[j]'(hv ▸ hj)) :=
  sim_clamp_holds m solver dt u k hk1 pre post inds _ rfl vals j hj hv hnd hpost hlt

section cells
open JaxleyVerif.Model.Cable

/-- the `match` of `Sim.solve`, named -/
def solveCell (solver : String) (dt : Float) (c : CellIn Float) : List Float :=
  match solver with
  | "bwd_euler" => stepBwd c dt
  | "crank_nicolson" => stepCN c dt
  | _ => (stepFwd c dt).getD []

/-- (C12) the voltage solve is the concatenation over the cells of the solve of that cell's own data -/
theorem sim_solve_cellwise (m : SimModule) (solver : String) (dt : Float) (uOld uNew : State Float) (iext : List Float) :
    Model.Sim.solve m solver dt uOld uNew iext =
      (List.range m.cells.length).flatMap (fun k => solveCell solver dt
        (Model.Sim.cellIn m k (getArr uOld "v").toArray (getArr uNew Model.Sim.keyGm).toArray
          (getArr uNew Model.Sim.keyKm).toArray iext.toArray)) := rfl

/-- (C12) `cellIn … k` reads cell `k`'s entry and slices only -/
theorem cellIn_congr (m m' : SimModule) (k : Nat) (v gm km istim v' gm' km' istim' : Array Float)
    (hc : m.cells.getD k ([], []) = m'.cells.getD k ([], []))
    (hcomps : ∀ i, i < nTotal (m.cells.getD k ([], [])).2 →
      m.comps.getD ((Model.Sim.cellOffsets m).getD k 0 + i) default =
        m'.comps.getD ((Model.Sim.cellOffsets m').getD k 0 + i) default)
    (hsl : ∀ i, i < nTotal (m.cells.getD k ([], [])).2 →
      v.getD ((Model.Sim.cellOffsets m).getD k 0 + i) 0.0 = v'.getD ((Model.Sim.cellOffsets m').getD k 0 + i) 0.0 ∧
      gm.getD ((Model.Sim.cellOffsets m).getD k 0 + i) 0.0 = gm'.getD ((Model.Sim.cellOffsets m').getD k 0 + i) 0.0 ∧
      km.getD ((Model.Sim.cellOffsets m).getD k 0 + i) 0.0 = km'.getD ((Model.Sim.cellOffsets m').getD k 0 + i) 0.0 ∧
      istim.getD ((Model.Sim.cellOffsets m).getD k 0 + i) 0.0 = istim'.getD ((Model.Sim.cellOffsets m').getD k 0 + i) 0.0) :
    Model.Sim.cellIn m k v gm km istim = Model.Sim.cellIn m' k v' gm' km' istim' := by
  unfold Model.Sim.cellIn
  simp only
  -- every field is a map over `Array.range nt`, so only the entries `off + i`, `i < nt`, are read
  have hr : ∀ {β : Type} {f g : Nat → β}, (∀ i, i < nTotal (m.cells.getD k ([], [])).2 → f i = g i) →
      (Array.range (nTotal (m.cells.getD k ([], [])).2)).map f = (Array.range (nTotal (m.cells.getD k ([], [])).2)).map g :=
    fun h => Array.map_congr_left (fun i hi => h i (Array.mem_range.mp hi))
  rw [← hc, hr hcomps, hr (fun i hi => (hsl i hi).1), hr (fun i hi => (hsl i hi).2.1), hr (fun i hi => (hsl i hi).2.2.1),
    hr (fun i hi => (hsl i hi).2.2.2)]

/-- (C12) **independence of uncoupled cells in the solve** -/
theorem sim_cell_block_independent (m m' : SimModule) (solver : String) (dt : Float) (k : Nat)
    (v gm km istim v' gm' km' istim' : Array Float)
    (hc : m.cells.getD k ([], []) = m'.cells.getD k ([], []))
    (hcomps : ∀ i, i < nTotal (m.cells.getD k ([], [])).2 →
      m.comps.getD ((Model.Sim.cellOffsets m).getD k 0 + i) default =
        m'.comps.getD ((Model.Sim.cellOffsets m').getD k 0 + i) default)
    (hsl : ∀ i, i < nTotal (m.cells.getD k ([], [])).2 →
      v.getD ((Model.Sim.cellOffsets m).getD k 0 + i) 0.0 = v'.getD ((Model.Sim.cellOffsets m').getD k 0 + i) 0.0 ∧
      gm.getD ((Model.Sim.cellOffsets m).getD k 0 + i) 0.0 = gm'.getD ((Model.Sim.cellOffsets m').getD k 0 + i) 0.0 ∧
      km.getD ((Model.Sim.cellOffsets m).getD k 0 + i) 0.0 = km'.getD ((Model.Sim.cellOffsets m').getD k 0 + i) 0.0 ∧
      istim.getD ((Model.Sim.cellOffsets m).getD k 0 + i) 0.0 = istim'.getD ((Model.Sim.cellOffsets m').getD k 0 + i) 0.0) :
    solveCell solver dt (Model.Sim.cellIn m k v gm km istim) =
      solveCell solver dt (Model.Sim.cellIn m' k v' gm' km' istim') :=
  congrArg (solveCell solver dt) (cellIn_congr m m' k v gm km istim v' gm' km' istim' hc hcomps hsl)

end cells

def exM : SimModule :=
  { cells := [([-1], [2])], comps := #[⟨1.0, 10.0, 5000.0, 1.0⟩, ⟨1.0, 10.0, 5000.0, 1.0⟩], nodeParams := [],
    chans := [], syns := [], withinType := #[], edgeStates := [] }

theorem exM_accepts : Model.Sim.accepts exM "bwd_euler" "jaxley.thomas" = true := by decide
example : Model.Sim.accepts exM "crank_nicolson" "jax.sparse" = true := by decide
example : Model.Sim.accepts exM "fwd_euler" "jaxley.thomas" = true := by decide
example : Model.Sim.accepts exM "fwd_euler" "jax.sparse" = false := by decide

/-- the hypotheses of the theorems above are satisfiable: this run is accepted for every `dt`, initial state, number of
steps and set of recordings (no externals), so it returns `recs.length` traces of `nsteps + 1` columns -/
example (dt : Float) (nsteps : Nat) (u0 : State Float) (recs : List (String × Nat)) :
    ∃ out, Model.Sim.integrate exM "bwd_euler" "jaxley.thomas" dt nsteps u0 [] recs = some out ∧
      out.length = recs.length ∧ ∀ tr ∈ out, tr.length = nsteps + 1 := by
  have h : (Model.Sim.integrate exM "bwd_euler" "jaxley.thomas" dt nsteps u0 [] recs).isSome :=
    (sim_integrate_some_iff exM "bwd_euler" "jaxley.thomas" dt nsteps u0 [] recs).mpr ⟨exM_accepts, rfl⟩
  obtain ⟨out, hout⟩ := Option.isSome_iff_exists.mp h
  exact ⟨out, hout, sim_integrate_shape exM "bwd_euler" "jaxley.thomas" dt nsteps u0 [] recs hout⟩

/-- `"v"` is not edge-indexed in this module, as `sim_clamp_v_holds` assumes -/
example : exM.edgeStates.contains "v" = false := by decide

end JaxleyVerif.Props.Sim
