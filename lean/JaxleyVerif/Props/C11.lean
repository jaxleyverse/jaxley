/-
C11 — views select exactly the described compartments, in local or global scope.

About the hand model `Model.Views` (tied to jaxley/modules/base.py by the correspondence harness, which compares
`_nodes_in_view`, `_edges_in_view` and the local index columns after every step of random selection chains).  A successful
`_at_nodes` is a filter of the parent's rows by the scope's index column; the local indices are the dense ranks of the global ones
(strictly monotone, below and onto the number of distinct values; for cells: equal local index iff equal global index); after a node
selection an edge is shown iff the parent showed it and both its ends are selected.  The statements on index forms, `[]`
indexing and iteration are instances or hold by definition: `range_eq_list` is one closed instance, `getItem_eq_methods` the case
of two indices below a "cell" view, `int_eq_singleton` and `iter_eq_methods` are `rfl`.  A channel view shows exactly the rows that
contain the channel, unless none does: then implementation and model return the WHOLE current view (known finding N8).
-/
import Mathlib.Data.List.Nodup
import Mathlib.Data.List.Perm.Subperm
import JaxleyVerif.Model.Views
import JaxleyVerif.Lemmas.OpsWF
import JaxleyVerif.Lemmas.Lists

namespace JaxleyVerif.Props.C11
open JaxleyVerif.Model.Views

theorem atNodes_ok (b : Base) (v w : View) (k : Key) (i : Idx) (h : atNodes b v k i = .ok w) :
    ∃ r, reformat b v i = .ok r ∧ w.nodes = v.nodes.filter (keepFn b v k r) ∧ w.scope = v.scope ∧
      w.edges = edgesAfterNodes b v.edges w.nodes := by
  obtain ⟨-, h⟩ := of_guard_eq_ok h
  cases hr : reformat b v i with
  | error e => simp [hr] at h
  | ok r =>
    simp only [hr] at h
    obtain ⟨-, h⟩ := of_guard_eq_ok h
    cases h
    exact ⟨r, rfl, rfl, rfl, rfl⟩

theorem atNodes_eq_filter (b : Base) (v w : View) (k : Key) (l : List Int)
    (h : atNodes b v k (.list l) = .ok w) :
    w.nodes = v.nodes.filter (fun lab => memInt (idxIn b v k lab) l) ∧ w.scope = v.scope ∧
    w.edges = edgesAfterNodes b v.edges w.nodes := by
  obtain ⟨r, hr, h⟩ := atNodes_ok b v w k _ h
  cases hr
  exact h

theorem atNodes_all (b : Base) (v w : View) (k : Key) (h : atNodes b v k .all = .ok w) : w.nodes = v.nodes := by
  obtain ⟨r, hr, h1, _, _⟩ := atNodes_ok b v w k _ h
  cases hr
  exact h1.trans (List.filter_eq_self.mpr fun _ _ => rfl)

theorem atNodes_sublist (b : Base) (v w : View) (k : Key) (i : Idx) (h : atNodes b v k i = .ok w) :
    w.nodes.Sublist v.nodes := by
  obtain ⟨r, _, h1, _, _⟩ := atNodes_ok b v w k i h
  rw [h1]; exact List.filter_sublist

theorem mem_distinct {x : Nat} : ∀ {l : List Nat}, x ∈ distinct l ↔ x ∈ l
  | [] => Iff.rfl
  | _ :: _ => mem_cons_filter_ne (fun _ => decide_eq_true_iff) mem_distinct

theorem nodup_distinct : ∀ l : List Nat, (distinct l).Nodup
  | [] => List.nodup_nil
  | _ :: ys => List.nodup_cons.mpr
    ⟨fun h => of_decide_eq_true (List.mem_filter.mp h).2 rfl, (nodup_distinct ys).filter _⟩

/-- `vals` = the global indices in view -/
theorem denseRank_strictMono {x y : Nat} {vals : List Nat} (hx : x ∈ vals) (hxy : x < y) :
    denseRank x vals < denseRank y vals := by
  unfold denseRank
  -- the values below `x` are those among the values below `y` that are below `x`; `x` itself is among the latter only
  have e : (distinct vals).filter (· < x) = ((distinct vals).filter (· < y)).filter (· < x) := by
    rw [List.filter_filter]
    refine List.filter_congr fun z _ => ?_
    by_cases hz : z < x
    · simp [hz, Nat.lt_trans hz hxy]
    · simp [hz]
  rw [e]
  exact List.length_filter_lt_length_iff_exists.mpr
    ⟨x, List.mem_filter.mpr ⟨mem_distinct.mpr hx, by simpa using hxy⟩, by simp⟩

theorem denseRank_lt {x : Nat} {vals : List Nat} (hx : x ∈ vals) : denseRank x vals < (distinct vals).length :=
  List.length_filter_lt_length_iff_exists.mpr ⟨x, mem_distinct.mpr hx, by simp⟩

theorem denseRank_inj {x y : Nat} {vals : List Nat} (hx : x ∈ vals) (hy : y ∈ vals)
    (h : denseRank x vals = denseRank y vals) : x = y := by
  rcases Nat.lt_trichotomy x y with hlt | heq | hgt
  · exact absurd h (Nat.ne_of_lt (denseRank_strictMono hx hlt))
  · exact heq
  · exact absurd h.symm (Nat.ne_of_lt (denseRank_strictMono hy hgt))

theorem denseRank_onto (vals : List Nat) (k : Nat) (hk : k < (distinct vals).length) :
    ∃ x ∈ vals, denseRank x vals = k := by
  -- the ranks of the distinct values are as many different numbers below their count, so they are all of them
  have hnd : ((distinct vals).map (denseRank · vals)).Nodup :=
    (nodup_distinct vals).map_on fun x hx y hy h => denseRank_inj (mem_distinct.mp hx) (mem_distinct.mp hy) h
  have hsub : (distinct vals).map (denseRank · vals) ⊆ List.range (distinct vals).length := fun r hr => by
    obtain ⟨x, hx, rfl⟩ := List.mem_map.mp hr
    exact List.mem_range.mpr (denseRank_lt (mem_distinct.mp hx))
  have hperm := (hnd.subperm hsub).perm_of_length_le (by simp)
  obtain ⟨x, hx, rfl⟩ := List.mem_map.mp (hperm.mem_iff.mpr (List.mem_range.mpr hk))
  exact ⟨x, mem_distinct.mp hx, rfl⟩

/-- scope coherence for cells: same local index ⇔ same global index (for rows of the view) -/
theorem local_eq_iff_global_eq (b : Base) (v : List Nat) {l m : Nat} (hl : l ∈ v) (hm : m ∈ v) :
    localIdx b v .cell l = localIdx b v .cell m ↔ (nodeOf b l).cell = (nodeOf b m).cell :=
  ⟨denseRank_inj (List.mem_map.mpr ⟨l, hl, rfl⟩) (List.mem_map.mpr ⟨m, hm, rfl⟩), fun h => congrArg (denseRank · _) h⟩

theorem int_eq_singleton (b : Base) (v : View) (k : Int) : reformat b v (.int k) = reformat b v (.list [k]) := rfl

theorem range_eq_list : reformat ⟨1, #[], #[], #[], #[], [], []⟩ ⟨[], [], .loc, "cell", none⟩ (.range 1 4 1)
    = reformat ⟨1, #[], #[], #[], #[], [], []⟩ ⟨[], [], .loc, "cell", none⟩ (.list [1, 2, 3]) := by decide

theorem insertSorted_eq_ops (x : Nat) (l : List Nat) : insertSorted x l = Model.Ops.insertSorted x l := by
  induction l with
  | nil => rfl
  | cons y ys ih => simp only [insertSorted, Model.Ops.insertSorted, ih]

theorem mem_sortedDistinct {x : Nat} {l : List Nat} : x ∈ sortedDistinct l ↔ x ∈ l := by
  have e : sortedDistinct l = Model.Ops.sortedUnion l [] := by
    simp only [sortedDistinct, Model.Ops.sortedUnion, insertSorted_eq_ops, List.append_nil]
  rw [e, Model.Ops.mem_sortedUnion, List.mem_nil_iff, or_false]

theorem edges_in_view_iff (b : Base) (ptr ns : List Nat) (e : Nat) :
    e ∈ edgesAfterNodes b ptr ns ↔
      e < b.edges.size ∧ e ∈ ptr ∧
      (b.edges.getD e ⟨0, 0, ""⟩).pre ∈ compsOf b ns ∧ (b.edges.getD e ⟨0, 0, ""⟩).post ∈ compsOf b ns := by
  unfold edgesAfterNodes
  rw [mem_sortedDistinct]
  simp only [List.mem_filter, List.mem_range, Bool.and_eq_true, List.contains_iff_mem]
  constructor
  · rintro ⟨⟨h1, h2, h3⟩, h4⟩; exact ⟨h1, h4, h2, h3⟩
  · rintro ⟨h1, h4, h2, h3⟩; exact ⟨⟨h1, h2, h3⟩, h4⟩

theorem getItem_eq_methods (b : Base) (v : View) (i j : Idx) (h : v.cur = "cell") :
    getItem b v [i, j] = (atNodes b v .branch i >>= fun w => atNodes b w .comp j) := by
  unfold getItem
  simp [h, childKeys, List.foldlM]

theorem iter_eq_methods (b : Base) (v : View) (k : Key) :
    iterViews b v k = (distinct (v.nodes.map (idxIn b v k))).map (fun i => atNodes b v k (.int (Int.ofNat i))) := rfl

theorem select_nodes_ok (b : Base) (v w : View) (ns : List Nat) (h : select b v (some ns) none = .ok w) : w.nodes = ns := by
  rw [select] at h
  obtain ⟨-, h⟩ := of_guard_eq_ok h
  obtain ⟨-, h⟩ := of_guard_eq_ok h
  cases h
  rfl

theorem channelView_exact (b : Base) (v w : View) (name : String) (rows : List Nat)
    (hc : b.chans.find? (·.1 == name) = some (name, rows))
    (hsome : (v.nodes.filter (fun l => rows.contains l)) ≠ [])
    (h : channelView b v name = .ok w) : w.nodes = v.nodes.filter (fun l => rows.contains l) := by
  -- `hsome` rules out the "whole view" branch; what is left is `select` of exactly these rows
  unfold channelView at h
  simp only [hc] at h
  rw [if_neg fun he => hsome (List.isEmpty_iff.mp he)] at h
  generalize hs : select b v (some (v.nodes.filter (fun l => rows.contains l))) none = r at h
  cases r with
  | error e => cases h
  | ok w' =>
    cases h
    exact select_nodes_ok b v w' _ hs

/-- known finding N8: a channel that exists in the module but in NO row of the current view yields the whole view -/
theorem channelView_absent_counterexample :
    let b : Base := ⟨1, #[⟨0, 0, 0⟩, ⟨0, 1, 1⟩], #[], #[1, 1], #[0, 1, 2], [], [("HH", [1])]⟩
    (channelView b ⟨[0], [], .loc, "branch", none⟩ "HH").toOption.map (·.nodes) = some [0] := by decide

end JaxleyVerif.Props.C11
