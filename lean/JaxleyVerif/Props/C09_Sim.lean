/-
C09 at the whole-simulation model `Model.Sim`: synaptic current flows from the listed pre- to the listed post-compartment.
Purely structural (no fact about `Float` arithmetic is used): which data the synaptic terms and states are functions of.
-/
import JaxleyVerif.Props.C08_Sim
import JaxleyVerif.Props.C09

namespace JaxleyVerif.Props.Sim
open JaxleyVerif JaxleyVerif.Model JaxleyVerif.Model.Step JaxleyVerif.Model.Synapse

/-- everything `Sim.synEdges` uses of one edge: its type's class name and prefix, the listed pre and post compartment, its own
state and parameter rows, radius and length of the POST compartment -/
structure EdgeData where
  name : String
  pfx : String
  pre : Nat
  post : Nat
  st : String → Float
  pr : String → Float
  r : Float
  l : Float

def edgeData (m : SimModule) (u : State Float) (s : Model.Sim.SynType) (e : Nat) : EdgeData :=
  { name := s.name, pfx := s.pfx, pre := s.pre.getD e 0, post := s.post.getD e 0,
    st := Model.Sim.stateAt u e, pr := Model.Sim.edgeParamAt s e,
    r := (m.comps.getD (s.post.getD e 0) default).r, l := (m.comps.getD (s.post.getD e 0) default).l }

/-- the `SynEdge` (current DENSITY in the post compartment) of an edge -/
def toSynEdge (d : EdgeData) : SynEdge Float :=
  { pre := d.pre, post := d.post,
    cur := fun vpre vpost => Gen.convert_point_process_to_distributed
      (Model.Sim.kernel1 (d.name ++ ".compute_current") d.pfx #[vpre, vpost] d.st d.pr) d.r d.l }

/-- all edges of the module, grouped by type, in row order -/
def allEdgeData (m : SimModule) (u : State Float) : List EdgeData :=
  m.syns.flatMap (fun s => (List.range s.pre.size).map (edgeData m u s))

theorem synEdges_eq (m : SimModule) (u : State Float) (s : Model.Sim.SynType) :
    Model.Sim.synEdges m u s = (List.range s.pre.size).map (fun e => toSynEdge (edgeData m u s e)) := rfl

theorem allEdges_eq (m : SimModule) (u : State Float) :
    m.syns.flatMap (Model.Sim.synEdges m u) = (allEdgeData m u).map toSynEdge := by
  unfold allEdgeData
  rw [List.map_flatMap]
  congr 1
  funext s
  rw [synEdges_eq, List.map_map]
  rfl

/-- the voltage a synapse reads at compartment `i` -/
def vAt (u : State Float) (i : Nat) : Float := (getArr u "v").getD i Model.Sim.nan

/-- (C09) the synaptic (voltage term, constant term) handed to the solver for compartment `c`, read from the arrays
`Sim.synapseCurrents` returns: the accumulation over exactly the edges whose listed POST compartment is `c` -/
theorem sim_syn_terms_eq (m : SimModule) (u : State Float) (c : Nat) (hc : c < Model.Sim.ncompTotal m) :
    ((Model.Sim.synapseCurrents m u).2.1.getD c 0.0, (Model.Sim.synapseCurrents m u).2.2.getD c 0.0) =
      synTerms (fun _ => 1.0) (vAt u) Model.Sim.diff
        (((allEdgeData m u).filter (fun d => d.post == c)).map toSynEdge) c := by
  -- the two arrays are the components of one array of pairs, computed per compartment
  have h : ((Model.Sim.synapseCurrents m u).2.1.getD c 0.0, (Model.Sim.synapseCurrents m u).2.2.getD c 0.0) =
      synTerms (fun _ => 1.0) (vAt u) Model.Sim.diff (m.syns.flatMap (Model.Sim.synEdges m u)) c := by
    show ((((Array.range (Model.Sim.ncompTotal m)).map _).map (fun (t : Float × Float) => t.1)).getD c 0.0,
      (((Array.range (Model.Sim.ncompTotal m)).map _).map (fun (t : Float × Float) => t.2)).getD c 0.0) = _
    simp only [Array.getD_eq_getD_getElem?, Array.getElem?_map, Array.getElem?_range, hc, if_true, Option.map_some,
      Option.getD_some]
    rfl
  rw [h, allEdges_eq, synTerms_filter, List.filter_map]
  rfl

/-- (C09) **the synaptic terms of `c` are local**: they are a function of the edges INTO `c` (all of `EdgeData`, in order) and
of `v` at their pre compartments and at `c` -/
theorem sim_syn_terms_local (m m' : SimModule) (u u' : State Float) (c : Nat)
    (hc : c < Model.Sim.ncompTotal m) (hc' : c < Model.Sim.ncompTotal m')
    (hedges : (allEdgeData m u).filter (fun d => d.post == c) = (allEdgeData m' u').filter (fun d => d.post == c))
    (hpre : ∀ d ∈ (allEdgeData m u).filter (fun d => d.post == c), vAt u d.pre = vAt u' d.pre)
    (hpost : vAt u c = vAt u' c) :
    ((Model.Sim.synapseCurrents m u).2.1.getD c 0.0, (Model.Sim.synapseCurrents m u).2.2.getD c 0.0) =
      ((Model.Sim.synapseCurrents m' u').2.1.getD c 0.0, (Model.Sim.synapseCurrents m' u').2.2.getD c 0.0) := by
  rw [sim_syn_terms_eq m u c hc, sim_syn_terms_eq m' u' c hc', ← hedges]
  refine synTerms_congr_v _ _ _ _ _ _ (fun e he _ => ?_) hpost
  obtain ⟨d, hd, rfl⟩ := List.mem_map.mp he
  exact hpre d hd

/-- (C09) a compartment that is the listed post compartment of no edge receives the zero terms (the `0` the accumulation
starts from) -/
theorem sim_syn_terms_none (m : SimModule) (u : State Float) (c : Nat) (hc : c < Model.Sim.ncompTotal m)
    (h : ∀ d ∈ allEdgeData m u, (d.post == c) = false) :
    ((Model.Sim.synapseCurrents m u).2.1.getD c 0.0, (Model.Sim.synapseCurrents m u).2.2.getD c 0.0) =
      ((0 : Float), (0 : Float)) := by
  rw [sim_syn_terms_eq m u c hc, List.filter_eq_nil_iff.mpr (fun d hd => ne_true_of_eq_false (h d hd))]
  rfl

/-- the `update_states` kernel call of edge `e` of type `s` -/
def synUpd (s : Model.Sim.SynType) (dt : Float) (v : List Float) (u : State Float) (e : Nat) : List (String × Float) :=
  Model.Sim.kernelKV (s.name ++ ".update_states") s.pfx
    #[dt, v.getD (s.pre.getD e 0) Model.Sim.nan, v.getD (s.post.getD e 0) Model.Sim.nan]
    (Model.Sim.stateAt u e) (Model.Sim.edgeParamAt s e)

/-- the names of the states a type writes (those returned for its first edge) -/
def synKeys (s : Model.Sim.SynType) (dt : Float) (v : List Float) (u : State Float) : List String :=
  ((((List.range s.pre.size).map (synUpd s dt v u)).headD []).map (·.1))

def synTypeStep (dt : Float) (v : List Float) (u : State Float) (s : Model.Sim.SynType) : State Float :=
  (synKeys s dt v u).foldl (fun u' k =>
    setArr u' k (((List.range s.pre.size).map (synUpd s dt v u)).map
      (fun kv => ((kv.find? (·.1 == k)).map (·.2)).getD Model.Sim.nan))) u

theorem stepSynapseState_eq (m : SimModule) (dt : Float) (u : State Float) :
    Model.Sim.stepSynapseState m dt u = m.syns.foldl (synTypeStep dt (getArr u "v")) u := rfl

/-- (C09) row `e` of a state array written by the step of type `s` is the value the `update_states` kernel returns for edge
`e`, and that call receives the edge's own state and parameter row, `v[pre e]` and `v[post e]` — nothing else -/
theorem sim_syn_state_row (s : Model.Sim.SynType) (dt : Float) (v : List Float) (u : State Float) (k : String)
    (hk : k ∈ synKeys s dt v u) (e : Nat) (he : e < s.pre.size) :
    (getArr (synTypeStep dt v u s) k)[e]? =
      some ((((synUpd s dt v u e).find? (·.1 == k)).map (·.2)).getD Model.Sim.nan) := by
  unfold synTypeStep
  rw [getArr_foldl_setArr, if_pos hk, List.getElem?_map, List.getElem?_map, List.getElem?_range he]
  rfl

/-- (C09) **the new state of an edge is determined by index `e` of the state arrays, the edge's parameters and the voltages at
its listed pre and post compartment**: two states that agree at index `e` of EVERY array (`stateAt u e`: the kernel is handed
the whole row, so more than the type's own states) and two voltage arrays that agree at the two compartments give the same
new row `e` for every state name the type writes in both runs -/
theorem sim_syn_state_reads_pre_post (s : Model.Sim.SynType) (dt : Float) (v v' : List Float) (u u' : State Float)
    (e : Nat) (he : e < s.pre.size) (hst : Model.Sim.stateAt u e = Model.Sim.stateAt u' e)
    (hpre : v.getD (s.pre.getD e 0) Model.Sim.nan = v'.getD (s.pre.getD e 0) Model.Sim.nan)
    (hpost : v.getD (s.post.getD e 0) Model.Sim.nan = v'.getD (s.post.getD e 0) Model.Sim.nan)
    (k : String) (hk : k ∈ synKeys s dt v u) (hk' : k ∈ synKeys s dt v' u') :
    (getArr (synTypeStep dt v u s) k)[e]? = (getArr (synTypeStep dt v' u' s) k)[e]? := by
  rw [sim_syn_state_row s dt v u k hk e he, sim_syn_state_row s dt v' u' k hk' e he]
  unfold synUpd
  rw [hst, hpre, hpost]

theorem sim_no_synapses_state (m : SimModule) (hm : m.syns = []) (dt : Float) (u : State Float) :
    Model.Sim.stepSynapseState m dt u = u := by
  rw [stepSynapseState_eq, hm]
  rfl

/-- (C09) without synapses the synaptic current step leaves the state unchanged and hands all-zero terms to the solver -/
theorem sim_no_synapses_currents (m : SimModule) (hm : m.syns = []) (u : State Float) :
    Model.Sim.synapseCurrents m u =
      (u, (Array.range (Model.Sim.ncompTotal m)).map (fun _ => (0 : Float)),
          (Array.range (Model.Sim.ncompTotal m)).map (fun _ => (0 : Float))) := by
  unfold Model.Sim.synapseCurrents
  simp only [hm, List.flatMap_nil, List.foldl_nil, Array.map_map]
  rfl

theorem initState_no_synapses (m : SimModule) (hm : m.syns = []) (u : State Float) :
    Model.Sim.initState m u = (Model.Sim.channelCurrents m u).1 := by
  unfold Model.Sim.initState
  simp only [sim_no_synapses_currents m hm]

/-- (C09) **a module without synapses**: the mechanism step consists of the channel steps only; the linearisation stored for
the solver is the channel linearisation plus the zero the synaptic accumulation starts from (`x + 0` stays as it is: nothing
is assumed about `Float.add`) -/
theorem sim_no_synapses (m : SimModule) (hm : m.syns = []) (dt : Float) (u : State Float) (iext : List Float) :
    Model.Sim.mech m dt u iext =
      setArr (setArr (Model.Sim.channelCurrents m (Model.Sim.stepChannelsState m dt u)).1 Model.Sim.keyGm
        ((List.range (Model.Sim.ncompTotal m)).map (fun i =>
          (Model.Sim.channelCurrents m (Model.Sim.stepChannelsState m dt u)).2.1.getD i 0.0 + (0 : Float))))
        Model.Sim.keyKm
        ((List.range (Model.Sim.ncompTotal m)).map (fun i =>
          (Model.Sim.channelCurrents m (Model.Sim.stepChannelsState m dt u)).2.2.getD i 0.0 + (0 : Float))) := by
  -- the synaptic terms are `0` on every row that exists
  have hz : ∀ a : Array Float, (List.range (Model.Sim.ncompTotal m)).map (fun i =>
        a.getD i 0.0 + ((Array.range (Model.Sim.ncompTotal m)).map (fun _ => (0 : Float))).getD i 0.0) =
      (List.range (Model.Sim.ncompTotal m)).map (fun i => a.getD i 0.0 + (0 : Float)) := by
    intro a
    refine List.map_congr_left fun i hi => congrArg (a.getD i 0.0 + ·) ?_
    rw [Array.getD_eq_getD_getElem?, Array.getElem?_map, Array.getElem?_range, if_pos (List.mem_range.mp hi)]
    rfl
  unfold Model.Sim.mech
  simp only [sim_no_synapses_state m hm, sim_no_synapses_currents m hm, hz]

end JaxleyVerif.Props.Sim
