/-
C13 — `set_ncomp` changes only the chosen branch, preserves its total length and its uniform properties, keeps every
other row (and its order), and remaps group labels so that every group denotes the same branches as before.

Theorems about `Model.SetNcomp`, for an arbitrary field `α`, of characteristic zero where lengths are divided by `n` (the
length theorems and `set_ncomp_eq_direct`; section `RealInstances` instantiates them at `ℝ`).  `setNcomp` cuts the table into `before ++ old ++ after`, where `old` is the first run of rows of branch `b`,
and puts `n` new rows of branch `b` in its place.  Length, frame and groups follow from this alone, for any table.  That
the rows of branch `b` are contiguous (`IsBlock`) is needed only to say what the three pieces are.
-/
import Mathlib.Data.Real.Basic
import Mathlib.Algebra.BigOperators.Group.List.Basic
import JaxleyVerif.Model.SetNcomp

namespace JaxleyVerif.Props.C13
open JaxleyVerif.Model.SetNcomp

variable {α P : Type}

section SumLen
variable [Field α]

theorem sumLen_eq_sum (rows : List (Row α P)) : sumLen rows = (rows.map (·.len)).sum := by
  rw [List.sum_eq_foldl, List.foldl_map]
  rfl

@[simp] theorem sumLen_nil : sumLen ([] : List (Row α P)) = 0 := rfl

theorem sumLen_append (l₁ l₂ : List (Row α P)) : sumLen (l₁ ++ l₂) = sumLen l₁ + sumLen l₂ := by
  simp only [sumLen_eq_sum, List.map_append, List.sum_append]

end SumLen

section Run
variable {pre blk new post : List (Row α P)} {b : Nat}

theorem filter_eq_replace (hblk : ∀ x ∈ blk, x.branch = b) :
    (pre ++ blk ++ post).filter (fun x => x.branch == b) =
      pre.filter (fun x => x.branch == b) ++ blk ++ post.filter (fun x => x.branch == b) := by
  rw [List.filter_append, List.filter_append, List.filter_eq_self.mpr fun x hx => beq_iff_eq.mpr (hblk x hx)]

theorem filter_ne_replace (hblk : ∀ x ∈ blk, x.branch = b) (hnew : ∀ x ∈ new, x.branch = b) :
    (pre ++ new ++ post).filter (fun x => x.branch != b) = (pre ++ blk ++ post).filter (fun x => x.branch != b) := by
  have hnil : ∀ l : List (Row α P), (∀ x ∈ l, x.branch = b) → l.filter (fun x => x.branch != b) = [] :=
    fun l hl => List.filter_eq_nil_iff.mpr fun x hx => by simp [hl x hx]
  rw [List.filter_append, List.filter_append, List.filter_append, List.filter_append, hnil _ hblk, hnil _ hnew]

end Run

section Pieces
variable [Field α] [Inhabited P]

/- The `let`-bound pieces of `setNcomp` under names; `setNcomp_rows`, `setNcomp_groups` hold by `rfl`
(`remapOf` takes `start`, `k` as parameters). -/

def beforeOf (c : CellT α P) (b : Nat) : List (Row α P) := c.rows.takeWhile (fun r => r.branch != b)
def oldOf (c : CellT α P) (b : Nat) : List (Row α P) :=
  (c.rows.dropWhile (fun r => r.branch != b)).takeWhile (fun r => r.branch == b)
def afterOf (c : CellT α P) (b : Nat) : List (Row α P) :=
  (c.rows.dropWhile (fun r => r.branch != b)).dropWhile (fun r => r.branch == b)
def newOf (c : CellT α P) (b n : Nat) (radiusOf : Nat → α) : List (Row α P) :=
  (List.range n).map (fun j =>
    { branch := b, len := sumLen (oldOf c b) / (n : α), rad := radiusOf j,
      props := match (oldOf c b).head? with | some r => r.props | none => default })
def remapOf (start k n : Nat) (g : List Nat) : List Nat :=
  g.filter (· < start) ++
    (if g.any (fun r => start ≤ r && r < start + k) then (List.range n).map (· + start) else []) ++
    (g.filter (fun r => start + k ≤ r)).map (fun r => r - k + n)

theorem setNcomp_rows (c : CellT α P) (b n : Nat) (radiusOf : Nat → α) :
    (setNcomp c b n radiusOf).rows = beforeOf c b ++ newOf c b n radiusOf ++ afterOf c b := rfl

theorem setNcomp_groups (c : CellT α P) (b n : Nat) (radiusOf : Nat → α) :
    (setNcomp c b n radiusOf).groups =
      c.groups.map (fun g => (g.1, remapOf (beforeOf c b).length (oldOf c b).length n g.2)) := rfl

omit [Field α] [Inhabited P] in
theorem rows_decomp (c : CellT α P) (b : Nat) : c.rows = beforeOf c b ++ oldOf c b ++ afterOf c b := by
  unfold beforeOf oldOf afterOf
  rw [List.append_assoc, List.takeWhile_append_dropWhile, List.takeWhile_append_dropWhile]

omit [Field α] [Inhabited P] in
theorem oldOf_branch (c : CellT α P) (b : Nat) : ∀ x ∈ oldOf c b, x.branch = b :=
  fun x hx => beq_iff_eq.mp (List.all_eq_true.mp List.all_takeWhile x hx)

theorem newOf_branch (c : CellT α P) (b n : Nat) (radiusOf : Nat → α) : ∀ x ∈ newOf c b n radiusOf, x.branch = b := by
  intro x hx
  obtain ⟨j, -, rfl⟩ := List.mem_map.mp hx
  rfl

@[simp] theorem newOf_length (c : CellT α P) (b n : Nat) (radiusOf : Nat → α) : (newOf c b n radiusOf).length = n :=
  (List.length_map _).trans List.length_range

end Pieces

section Length
variable [Field α] [CharZero α]

/-- about the new rows as a list; `set_ncomp_length_table` is the statement at `setNcomp` -/
theorem set_ncomp_length (b n : Nat) (hn : n ≠ 0) (total : α) (radiusOf : Nat → α) (p : P) :
    sumLen ((List.range n).map (fun j => ({ branch := b, len := total / (n : α), rad := radiusOf j, props := p } : Row α P)))
      = total := by
  rw [sumLen_eq_sum, List.map_map]
  -- every new row has the same length
  change ((List.range n).map (fun _ => total / (n : α))).sum = total
  rw [List.map_const', List.sum_replicate, List.length_range, nsmul_eq_mul, mul_div_cancel₀ _ (Nat.cast_ne_zero.mpr hn)]

variable [Inhabited P]

theorem set_ncomp_length_table (c : CellT α P) (b n : Nat) (hn : n ≠ 0) (radiusOf : Nat → α) :
    sumLen (newOf c b n radiusOf) = sumLen (oldOf c b) :=
  set_ncomp_length b n hn _ radiusOf _

theorem set_ncomp_total_length (c : CellT α P) (b n : Nat) (hn : n ≠ 0) (radiusOf : Nat → α) :
    sumLen (setNcomp c b n radiusOf).rows = sumLen c.rows := by
  rw [setNcomp_rows, rows_decomp c b]
  simp only [sumLen_append, set_ncomp_length_table c b n hn]

theorem set_ncomp_branch_length (c : CellT α P) (b n : Nat) (hn : n ≠ 0) (radiusOf : Nat → α) :
    sumLen ((setNcomp c b n radiusOf).rows.filter (fun x => x.branch == b)) =
      sumLen (c.rows.filter (fun x => x.branch == b)) := by
  rw [setNcomp_rows, rows_decomp c b, filter_eq_replace (newOf_branch c b n radiusOf),
    filter_eq_replace (oldOf_branch c b)]
  simp only [sumLen_append, set_ncomp_length_table c b n hn]

end Length

section Frame
variable [Field α] [Inhabited P]

/-- No contiguity hypothesis: `old` is a run of rows of branch `b`, replaced by a run of rows of branch `b`. -/
theorem set_ncomp_frame (c : CellT α P) (b n : Nat) (radiusOf : Nat → α) :
    (setNcomp c b n radiusOf).rows.filter (fun x => x.branch != b) = c.rows.filter (fun x => x.branch != b) := by
  rw [setNcomp_rows, rows_decomp c b]
  exact filter_ne_replace (oldOf_branch c b) (newOf_branch c b n radiusOf)

end Frame

section Groups

/-- Old label `i` and new label `i'` denote corresponding rows when the `k` rows from position `s` on are replaced by
`n` rows: a row in front keeps its label, every row of the old block corresponds to every row of the new one, and the
`d`-th row behind the old block becomes the `d`-th row behind the new one. -/
def Remaps (s k n i i' : Nat) : Prop :=
  (i < s ∧ i' = i) ∨ (∃ a < k, ∃ a' < n, i = s + a ∧ i' = s + a') ∨ (∃ d, i = s + k + d ∧ i' = s + n + d)

theorem mem_remapOf (s k n : Nat) (g : List Nat) (i' : Nat) :
    i' ∈ remapOf s k n g ↔ ∃ i ∈ g, Remaps s k n i i' := by
  simp only [remapOf, Remaps, List.mem_append, List.mem_filter, List.mem_map, List.mem_range, List.mem_ite_nil_right,
    List.any_eq_true, Bool.and_eq_true, decide_eq_true_eq]
  constructor
  · rintro ((⟨h, hs⟩ | ⟨⟨i, hi, h1, h2⟩, j, hj, rfl⟩) | ⟨i, ⟨hi, h⟩, rfl⟩)
    · exact ⟨i', h, .inl ⟨hs, rfl⟩⟩
    · exact ⟨i, hi, .inr (.inl ⟨i - s, Nat.sub_lt_left_of_lt_add h1 h2, j, hj, (Nat.add_sub_cancel' h1).symm,
        Nat.add_comm j s⟩)⟩
    · exact ⟨i, hi, .inr (.inr ⟨i - (s + k), (Nat.add_sub_cancel' h).symm, by omega⟩)⟩
  · rintro ⟨i, hi, ⟨hs, rfl⟩ | ⟨a, ha, a', ha', rfl, rfl⟩ | ⟨d, rfl, rfl⟩⟩
    · exact .inl (.inl ⟨hi, hs⟩)
    · exact .inl (.inr ⟨⟨_, hi, Nat.le_add_right s a, Nat.add_lt_add_left ha s⟩, a', ha', Nat.add_comm a' s⟩)
    · exact .inr ⟨_, ⟨hi, Nat.le_add_right _ d⟩, by omega⟩

theorem Remaps.exists {s k n : Nat} (hn : 0 < n) (i : Nat) : ∃ i', Remaps s k n i i' := by
  rcases Nat.lt_or_ge i s with h1 | h1
  · exact ⟨i, .inl ⟨h1, rfl⟩⟩
  rcases Nat.lt_or_ge i (s + k) with h2 | h2
  · exact ⟨_, .inr (.inl ⟨i - s, Nat.sub_lt_left_of_lt_add h1 h2, 0, hn, (Nat.add_sub_cancel' h1).symm, rfl⟩)⟩
  · exact ⟨_, .inr (.inr ⟨i - (s + k), (Nat.add_sub_cancel' h2).symm, rfl⟩)⟩

theorem getElem?_append_add {β : Type} (A B : List β) (d : Nat) : (A ++ B)[A.length + d]? = B[d]? := by
  rw [List.getElem?_append_right (Nat.le_add_right _ _), Nat.add_sub_cancel_left]

/-- both sides are `none` when the labels are out of range -/
theorem Remaps.branch {pre blk new post : List (Row α P)} {b : Nat}
    (hblk : ∀ x ∈ blk, x.branch = b) (hnew : ∀ x ∈ new, x.branch = b) {i i' : Nat}
    (h : Remaps pre.length blk.length new.length i i') :
    (pre ++ new ++ post)[i']?.map (·.branch) = (pre ++ blk ++ post)[i]?.map (·.branch) := by
  rw [List.append_assoc, List.append_assoc]
  rcases h with ⟨hs, rfl⟩ | ⟨a, ha, a', ha', rfl, rfl⟩ | ⟨d, rfl, rfl⟩
  · rw [List.getElem?_append_left hs, List.getElem?_append_left hs]
  · rw [getElem?_append_add, getElem?_append_add, List.getElem?_append_left ha, List.getElem?_append_left ha',
      List.getElem?_eq_getElem ha, List.getElem?_eq_getElem ha', Option.map_some, Option.map_some,
      hblk _ (List.getElem_mem ha), hnew _ (List.getElem_mem ha')]
  · rw [Nat.add_assoc, Nat.add_assoc, getElem?_append_add, getElem?_append_add, getElem?_append_add,
      getElem?_append_add]

theorem mem_branchesOf (rows : List (Row α P)) (g : List Nat) (x : Nat) :
    x ∈ branchesOf rows g ↔ ∃ i ∈ g, rows[i]?.map (·.branch) = some x := by
  simp only [branchesOf, List.mem_eraseDups, List.mem_filterMap]

theorem branchesOf_remap (pre blk new post : List (Row α P)) (b : Nat)
    (hblk : ∀ x ∈ blk, x.branch = b) (hnew : ∀ x ∈ new, x.branch = b) (hnew0 : new ≠ []) (g : List Nat) (x : Nat) :
    x ∈ branchesOf (pre ++ new ++ post) (remapOf pre.length blk.length new.length g) ↔
      x ∈ branchesOf (pre ++ blk ++ post) g := by
  simp only [mem_branchesOf, mem_remapOf]
  constructor
  · rintro ⟨i', ⟨i, hi, hr⟩, hx⟩
    exact ⟨i, hi, (hr.branch hblk hnew).symm.trans hx⟩
  · rintro ⟨i, hi, hx⟩
    obtain ⟨i', hr⟩ := Remaps.exists (s := pre.length) (k := blk.length) (List.length_pos_iff.mpr hnew0) i
    exact ⟨i', ⟨i, hi, hr⟩, (hr.branch hblk hnew).trans hx⟩

variable [Field α] [Inhabited P]

/-- Neither a bound on the labels nor contiguity of the rows of branch `b` is needed: an out-of-range label is remapped
to an out-of-range label and `branchesOf` ignores both; `old` is a run of rows of branch `b` wherever it lies. -/
theorem set_ncomp_group (c : CellT α P) (b n : Nat) (hn : n ≠ 0) (radiusOf : Nat → α) (g : List Nat) (x : Nat) :
    x ∈ branchesOf (setNcomp c b n radiusOf).rows (remapOf (beforeOf c b).length (oldOf c b).length n g) ↔
      x ∈ branchesOf c.rows g := by
  have := branchesOf_remap (beforeOf c b) (oldOf c b) (newOf c b n radiusOf) (afterOf c b) b (oldOf_branch c b)
    (newOf_branch c b n radiusOf) (List.ne_nil_of_length_pos ((newOf_length c b n radiusOf).symm ▸ Nat.pos_of_ne_zero hn)) g x
  rwa [newOf_length, ← setNcomp_rows, ← rows_decomp] at this

theorem set_ncomp_groups_length (c : CellT α P) (b n : Nat) (radiusOf : Nat → α) :
    (setNcomp c b n radiusOf).groups.length = c.groups.length :=
  List.length_map _

end Groups

/-- the rows of branch `b` form the contiguous block `blk` of `rows` -/
structure IsBlock (rows : List (Row α P)) (b : Nat) (pre blk post : List (Row α P)) : Prop where
  eq : rows = pre ++ blk ++ post
  pre_ne : ∀ x ∈ pre, x.branch ≠ b
  blk_eq : ∀ x ∈ blk, x.branch = b
  post_ne : ∀ x ∈ post, x.branch ≠ b

section Block
variable [Field α] [Inhabited P]
variable {c : CellT α P} {b : Nat} {pre blk post : List (Row α P)}

omit [Field α] [Inhabited P] in
theorem span_append {β : Type} {p : β → Bool} {A B : List β} (hA : ∀ x ∈ A, p x = true)
    (hB : ∀ x ∈ B.head?, p x = false) : (A ++ B).takeWhile p = A ∧ (A ++ B).dropWhile p = B := by
  rw [List.takeWhile_append_of_pos hA, List.dropWhile_append_of_pos hA]
  cases B with
  | nil => exact ⟨List.append_nil _, rfl⟩
  | cons x xs =>
    have hx : ¬ p x = true := Bool.eq_false_iff.mp (hB x rfl)
    rw [List.takeWhile_cons_of_neg hx, List.dropWhile_cons_of_neg hx]
    exact ⟨List.append_nil _, rfl⟩

omit [Field α] [Inhabited P] in
theorem IsBlock.pieces (h : IsBlock c.rows b pre blk post) (hne : blk ≠ []) :
    beforeOf c b = pre ∧ oldOf c b = blk ∧ afterOf c b = post := by
  -- `takeWhile (· ≠ b)` stops at the head of `blk`, `takeWhile (· = b)` at the head of `post`
  have h1 := span_append (p := fun r : Row α P => r.branch != b) (A := pre) (B := blk ++ post)
    (fun x hx => bne_iff_ne.mpr (h.pre_ne x hx))
    (fun x hx => by
      rw [List.head?_append_of_ne_nil _ hne] at hx
      exact bne_eq_false_iff_eq.mpr (h.blk_eq x (List.mem_of_mem_head? hx)))
  have h2 := span_append (p := fun r : Row α P => r.branch == b) (A := blk) (B := post)
    (fun x hx => beq_iff_eq.mpr (h.blk_eq x hx))
    (fun x hx => beq_eq_false_iff_ne.mpr (h.post_ne x (List.mem_of_mem_head? hx)))
  unfold beforeOf oldOf afterOf
  rw [h.eq, List.append_assoc, h1.1, h1.2, h2.1, h2.2]
  exact ⟨rfl, rfl, rfl⟩

/-- special case of `set_ncomp_frame`, which needs no hypothesis -/
theorem set_ncomp_frame_block (_h : IsBlock c.rows b pre blk post) (n : Nat) (radiusOf : Nat → α) :
    (setNcomp c b n radiusOf).rows.filter (fun x => x.branch != b) = c.rows.filter (fun x => x.branch != b) :=
  set_ncomp_frame c b n radiusOf

theorem set_ncomp_rows_of_branch (h : IsBlock c.rows b pre blk post) (hne : blk ≠ []) (n : Nat) (radiusOf : Nat → α) :
    (setNcomp c b n radiusOf).rows =
      pre ++ (List.range n).map (fun j =>
        { branch := b, len := sumLen blk / (n : α), rad := radiusOf j, props := (blk.head hne).props }) ++ post := by
  obtain ⟨h1, h2, h3⟩ := h.pieces hne
  rw [setNcomp_rows, h1, h3, newOf, h2, List.head?_eq_some_head hne]

/-- `h`, `hne` are not used: this is `set_ncomp_branch_length`, which holds at any table -/
theorem set_ncomp_length_branch [CharZero α] (h : IsBlock c.rows b pre blk post) (hne : blk ≠ []) (n : Nat) (hn : n ≠ 0)
    (radiusOf : Nat → α) :
    sumLen ((setNcomp c b n radiusOf).rows.filter (fun x => x.branch == b)) =
      sumLen (c.rows.filter (fun x => x.branch == b)) :=
  set_ncomp_branch_length c b n hn radiusOf

/-- `h`, `hne` are not used: this is `set_ncomp_group`, at any table -/
theorem set_ncomp_groups (h : IsBlock c.rows b pre blk post) (hne : blk ≠ []) (n : Nat) (hn : n ≠ 0)
    (radiusOf : Nat → α) (i : Nat) (name : String) (g : List Nat) (hg : c.groups[i]? = some (name, g)) :
    ∃ g', (setNcomp c b n radiusOf).groups[i]? = some (name, g') ∧
      ∀ x, x ∈ branchesOf (setNcomp c b n radiusOf).rows g' ↔ x ∈ branchesOf c.rows g := by
  refine ⟨_, ?_, set_ncomp_group c b n hn radiusOf g⟩
  rw [setNcomp_groups, List.getElem?_map, hg]
  rfl

end Block

section Direct
variable [Field α]

def rowsOf (s : BranchSpec α P) (i : Nat) : List (Row α P) :=
  (List.range s.ncomp).map (fun _ =>
    ({ branch := i, len := s.length / (s.ncomp : α), rad := s.radius, props := s.props } : Row α P))

def buildFrom (k : Nat) (specs : List (BranchSpec α P)) : List (Row α P) :=
  (specs.zipIdx k).flatMap (fun sb => rowsOf sb.1 sb.2)

@[simp] theorem rowsOf_length (s : BranchSpec α P) (i : Nat) : (rowsOf s i).length = s.ncomp := by
  rw [rowsOf, List.length_map, List.length_range]

theorem sumLen_rowsOf [CharZero α] (s : BranchSpec α P) (i : Nat) (hs : s.ncomp ≠ 0) :
    sumLen (rowsOf s i) = s.length :=
  set_ncomp_length i s.ncomp hs s.length (fun _ => s.radius) s.props

theorem mem_rowsOf {s : BranchSpec α P} {i : Nat} {x : Row α P} (hx : x ∈ rowsOf s i) :
    x.branch = i ∧ x.props = s.props ∧ x.len = s.length / (s.ncomp : α) := by
  simp only [rowsOf, List.mem_map] at hx
  obtain ⟨j, -, rfl⟩ := hx
  exact ⟨rfl, rfl, rfl⟩

theorem mem_buildFrom {k : Nat} {specs : List (BranchSpec α P)} {x : Row α P} (hx : x ∈ buildFrom k specs) :
    k ≤ x.branch ∧ x.branch < k + specs.length := by
  simp only [buildFrom, List.mem_flatMap] at hx
  obtain ⟨⟨s, i⟩, hsi, hxs⟩ := hx
  have := List.mem_zipIdx hsi
  rw [(mem_rowsOf hxs).1]
  exact ⟨this.1, this.2.1⟩

theorem build_three (pre post : List (BranchSpec α P)) (s : BranchSpec α P) :
    build (pre ++ [s] ++ post) = buildFrom 0 pre ++ rowsOf s pre.length ++ buildFrom (pre.length + 1) post := by
  simp [build, buildFrom, rowsOf, List.zipIdx_append, List.flatMap_append]

variable [CharZero α] [Inhabited P]

/-- Only `0 < s.ncomp` is needed, not positivity of the other `ncomp`s and not `n ≠ 0`: for `n = 0` both sides have no
row of that branch. -/
theorem set_ncomp_eq_direct (pre post : List (BranchSpec α P)) (s : BranchSpec α P) (gs : List (String × List Nat))
    (n : Nat) (hs : 0 < s.ncomp) :
    (setNcomp ⟨build (pre ++ [s] ++ post), gs⟩ pre.length n (fun _ => s.radius)).rows
      = build (pre ++ [{ s with ncomp := n }] ++ post) := by
  have hblock : IsBlock (CellT.mk (build (pre ++ [s] ++ post)) gs).rows pre.length
      (buildFrom 0 pre) (rowsOf s pre.length) (buildFrom (pre.length + 1) post) :=
    { eq := build_three pre post s
      pre_ne := fun x hx => Nat.ne_of_lt (Nat.zero_add pre.length ▸ (mem_buildFrom hx).2)
      blk_eq := fun x hx => (mem_rowsOf hx).1
      post_ne := fun x hx => Nat.ne_of_gt (mem_buildFrom hx).1 }
  have hne : rowsOf s pre.length ≠ [] :=
    List.ne_nil_of_length_pos (by rw [rowsOf_length]; exact hs)
  rw [set_ncomp_rows_of_branch hblock hne n _, build_three]
  -- what is left are the rows in the middle: the new ones against `rowsOf { s with ncomp := n } pre.length`
  congr 2
  rw [sumLen_rowsOf s _ hs.ne', (mem_rowsOf (List.head_mem hne)).2.1]
  rfl

end Direct

section RealInstances
variable [Inhabited P]

example (b n : Nat) (hn : n ≠ 0) (total : ℝ) (radiusOf : Nat → ℝ) (p : P) :
    sumLen ((List.range n).map (fun j => ({ branch := b, len := total / (n : ℝ), rad := radiusOf j, props := p } : Row ℝ P)))
      = total := set_ncomp_length b n hn total radiusOf p

example (c : CellT ℝ P) (b n : Nat) (hn : n ≠ 0) (radiusOf : Nat → ℝ) :
    sumLen (setNcomp c b n radiusOf).rows = sumLen c.rows := set_ncomp_total_length c b n hn radiusOf

example (c : CellT ℝ P) (b n : Nat) (radiusOf : Nat → ℝ) :
    (setNcomp c b n radiusOf).rows.filter (fun x => x.branch != b) = c.rows.filter (fun x => x.branch != b) :=
  set_ncomp_frame c b n radiusOf

example (pre post : List (BranchSpec ℝ P)) (s : BranchSpec ℝ P) (gs : List (String × List Nat)) (n : Nat)
    (hs : 0 < s.ncomp) :
    (setNcomp ⟨build (pre ++ [s] ++ post), gs⟩ pre.length n (fun _ => s.radius)).rows
      = build (pre ++ [{ s with ncomp := n }] ++ post) := set_ncomp_eq_direct pre post s gs n hs

end RealInstances

section Example

/-- three branches (lengths 10, 20, 30) with two compartments each; group `"g"` = the two rows of branch 2 -/
def exCell : CellT ℚ Unit :=
  ⟨build [⟨2, 10, 1, ()⟩, ⟨2, 20, 1, ()⟩, ⟨2, 30, 1, ()⟩], [("g", [4, 5])]⟩

example : branchesOf exCell.rows [4, 5] = [2] := by decide
example : (setNcomp exCell 0 4 (fun _ => 1)).groups = [("g", [6, 7])] := by decide
/-- after `branch(0).set_ncomp(4)` the group denotes branch 2 again -/
example : (setNcomp exCell 0 4 (fun _ => 1)).groups.map (fun g => branchesOf (setNcomp exCell 0 4 (fun _ => 1)).rows g.2)
    = [[2]] := by decide
example : (setNcomp exCell 0 4 (fun _ => 1)).rows.map (·.branch) = [0, 0, 0, 0, 1, 1, 2, 2] := by decide
-- plain `decide` is stuck at `Rat.mul`, which the elaborator does not unfold; the kernel evaluates it
example : (setNcomp exCell 0 4 (fun _ => 1)).rows.map (·.len) = [5/2, 5/2, 5/2, 5/2, 10, 10, 15, 15] := by
  decide +kernel

end Example

end JaxleyVerif.Props.C13
