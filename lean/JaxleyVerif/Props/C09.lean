/-
C09 — synaptic current flows from the listed pre- to the listed post-compartment.

First (namespace `Props.Sim`) the facts that hold for every carrier (also `Float`; `Props/C09_Sim.lean` uses them at the
whole-simulation model): an edge reads `v` at its pre and post compartment only, only the edges that end in `c` contribute
to `c` (`Sim.synTerms_filter`).
Then over ℝ: the terms of `c` are sums over the edges into `c` (`synTerms_eq_sum`), so permuting the creation order of the
synapses changes nothing; for currents affine in the post voltage (Ionotropic, Test, TanhRate) the secant linearisation is
exact; vanishing currents give vanishing terms (then `C12.block_diagonal_independent` applies).
-/
import Mathlib.Algebra.BigOperators.Group.List.Basic
import Mathlib.Data.Real.Basic
import Mathlib.Tactic.Ring
import JaxleyVerif.Model.Synapse
import JaxleyVerif.Lemmas.Fold

namespace JaxleyVerif.Props.Sim
open JaxleyVerif.Model.Synapse

section generic
variable {α : Type} [Add α] [Sub α] [Mul α] [Div α] [OfNat α 0]

omit [OfNat α 0] in
theorem edgeTerms_congr (conv : Nat → α) (v v' : Nat → α) (d : α) (e : SynEdge α) (hpre : v e.pre = v' e.pre)
    (hpost : v e.post = v' e.post) : edgeTerms conv v d e = edgeTerms conv v' d e := by
  unfold edgeTerms
  rw [hpre, hpost]

/-- (C09) only the edges that end in `c` contribute to the terms of compartment `c` (the fold form of
`C09.synTerms_eq_sum`, valid for every carrier, also `Float`) -/
theorem synTerms_filter (conv : Nat → α) (v : Nat → α) (d : α) (edges : List (SynEdge α)) (c : Nat) :
    synTerms conv v d edges c = synTerms conv v d (edges.filter (fun e => e.post == c)) c := by
  unfold synTerms
  rw [List.foldl_filter]
  refine List.foldl_ext _ _ _ (fun acc e _ => ?_)
  -- an edge that does not end in `c` is skipped by the fold itself
  split <;> rfl

/-- (C09) a compartment that is the post site of no edge receives the zero terms -/
theorem synTerms_none (conv : Nat → α) (v : Nat → α) (d : α) (edges : List (SynEdge α)) (c : Nat)
    (h : ∀ e ∈ edges, (e.post == c) = false) : synTerms conv v d edges c = (0, 0) := by
  rw [synTerms_filter, List.filter_eq_nil_iff.mpr (fun e he => ne_true_of_eq_false (h e he))]
  rfl

/-- (C09) the terms of `c` read the voltages at the pre compartments of the edges into `c` and at `c` itself only -/
theorem synTerms_congr_v (conv : Nat → α) (v v' : Nat → α) (d : α) (c : Nat) (edges : List (SynEdge α))
    (hpre : ∀ e ∈ edges, e.post = c → v e.pre = v' e.pre) (hpost : v c = v' c) :
    synTerms conv v d edges c = synTerms conv v' d edges c := by
  refine List.foldl_ext _ _ _ (fun acc e he => ?_)
  split
  · rename_i hc
    rw [edgeTerms_congr conv v v' d e (hpre e he (eq_of_beq hc)) (by rw [eq_of_beq hc, hpost])]
  · rfl

end generic

end JaxleyVerif.Props.Sim

namespace JaxleyVerif.Props.C09
open JaxleyVerif.Model.Synapse

variable (conv : Nat → ℝ) (v : Nat → ℝ) (d : ℝ)

theorem foldl_add_sub {β : Type} (p : β → Bool) (f g : β → ℝ) (l : List β) (acc : ℝ × ℝ) :
    l.foldl (fun acc e => if p e then (acc.1 + f e, acc.2 - g e) else acc) acc
      = (acc.1 + ((l.filter p).map f).sum, acc.2 - ((l.filter p).map g).sum) := by
  induction l generalizing acc with
  | nil => exact Prod.ext (add_zero _).symm (sub_zero _).symm
  | cons e es ih =>
    rw [List.foldl_cons, List.filter_cons, ih]
    by_cases hc : p e = true
    · rw [if_pos hc, if_pos hc, List.map_cons, List.map_cons, List.sum_cons, List.sum_cons, add_assoc, sub_sub]
    · rw [if_neg hc, if_neg hc]

theorem synTerms_eq_sum (edges : List (SynEdge ℝ)) (c : Nat) :
    synTerms conv v d edges c =
      (((edges.filter (fun e => e.post == c)).map (fun e => (edgeTerms conv v d e).1)).sum,
       -(((edges.filter (fun e => e.post == c)).map (fun e => (edgeTerms conv v d e).2)).sum)) := by
  have h := foldl_add_sub (fun e : SynEdge ℝ => e.post == c) (fun e => (edgeTerms conv v d e).1)
    (fun e => (edgeTerms conv v d e).2) edges (0, 0)
  rwa [zero_add, zero_sub] at h

theorem no_edge_no_terms (edges : List (SynEdge ℝ)) (c : Nat) (h : ∀ e ∈ edges, (e.post == c) = false) :
    synTerms conv v d edges c = (0, 0) :=
  Sim.synTerms_none conv v d edges c h

theorem edgeTerms_reads_only_pre_post (e : SynEdge ℝ) (v' : Nat → ℝ) (hpre : v' e.pre = v e.pre) (hpost : v' e.post = v e.post) :
    edgeTerms conv v' d e = edgeTerms conv v d e :=
  Sim.edgeTerms_congr conv v' v d e hpre hpost

/-- for a current affine in the post voltage, `I(v_pre, x) = a·x + b`, the secant linearisation reproduces the current density
exactly at EVERY post voltage `x`: `vt·x + ct = conv·I(v_pre, x)` — so the implicit step treats it exactly -/
theorem secant_exact_of_affine (e : SynEdge ℝ) (a b : ℝ) (hd : d ≠ 0) (haff : ∀ x, e.cur (v e.pre) x = a * x + b) (x : ℝ) :
    (edgeTerms conv v d e).1 * x + (edgeTerms conv v d e).2 = conv e.post * e.cur (v e.pre) x := by
  unfold edgeTerms
  -- the secant slope of an affine current is its slope: `(c1 - c0) / d = conv · a`
  have hvt : (conv e.post * e.cur (v e.pre) (v e.post + d) - conv e.post * e.cur (v e.pre) (v e.post)) / d =
      conv e.post * a := by
    rw [haff, haff, show conv e.post * (a * (v e.post + d) + b) - conv e.post * (a * v e.post + b) = conv e.post * a * d by ring,
      mul_div_cancel_right₀ _ hd]
  dsimp only
  rw [hvt, haff, haff]
  ring

/-- permuting the creation order of the synapses changes no compartment's terms -/
theorem edge_order_invariant (e1 e2 : List (SynEdge ℝ)) (hp : e1.Perm e2) (c : Nat) :
    synTerms conv v d e1 c = synTerms conv v d e2 c := by
  rw [synTerms_eq_sum, synTerms_eq_sum]
  have hf := hp.filter (fun e => e.post == c)
  rw [(hf.map (fun e => (edgeTerms conv v d e).1)).sum_eq, (hf.map (fun e => (edgeTerms conv v d e).2)).sum_eq]

theorem zero_conductance_isolates (edges : List (SynEdge ℝ)) (h : ∀ e ∈ edges, ∀ x y, e.cur x y = 0) (c : Nat) :
    synTerms conv v d edges c = (0, 0) := by
  -- every edge adds `(0, 0)`
  unfold synTerms
  refine foldl_view_fixed id _ (fun acc e he => ?_)
  have ht : edgeTerms conv v d e = (0, 0) := by
    unfold edgeTerms
    simp only [h e he, mul_zero, sub_zero, zero_div, zero_mul]
  dsimp only [id]
  split
  · simp only [ht, add_zero, sub_zero]
  · rfl

/-- non-vacuity: two synapses onto compartment 1 add, compartment 0 receives nothing -/
example : (synTerms (fun _ => (2:ℝ)) (fun _ => (1:ℝ)) 1 [⟨0, 1, fun _ y => 3 * y⟩, ⟨2, 1, fun _ y => 5 * y⟩] 1).1 = 16 ∧
    synTerms (fun _ => (2:ℝ)) (fun _ => (1:ℝ)) 1 [⟨0, 1, fun _ y => 3 * y⟩, ⟨2, 1, fun _ y => 5 * y⟩] 0 = (0, 0) := by
  refine ⟨?_, rfl⟩
  simp only [synTerms, edgeTerms, List.foldl_cons, List.foldl_nil, beq_self_eq_true, if_true]
  norm_num

end JaxleyVerif.Props.C09
