/-
C12 — assembly preserves constituents; uncoupled parts simulate independently; sibling order only permutes.

Over ℝ, on the abstract cable system of `Lemmas/MaxPrinciple` (the rows C01 ties to the code): without cross coupling (a network
without synapses) the joint solution restricted to a cell solves the cell's own system, hence IS it by uniqueness
(`block_diagonal_independent`); a bijection of the nodes (sibling branches or cells listed in another order) permutes rows and
solution and nothing else (`permutation_equivariant`); both are `Cable.row_embed` / `Cable.solution_restrict` (a part of a system
that is coupled to nothing outside itself), at `Sum.inl` and at a bijection.  And the table model of concatenation
(`concat_preserves_rows`).  That whole SIMULATIONS of uncoupled cells agree is `Props/C12_Sim.lean`.
-/
import Mathlib.Data.Real.Basic
import Mathlib.Data.Fintype.Sum
import JaxleyVerif.Lemmas.MaxPrinciple

namespace JaxleyVerif.Props.C12
open JaxleyVerif JaxleyVerif.Cable

section block
variable {ι κ : Type}

/-- weights of the disjoint union of two uncoupled systems -/
def sumW (w1 : ι → ι → ℝ) (w2 : κ → κ → ℝ) : ι ⊕ κ → ι ⊕ κ → ℝ
  | .inl i, .inl j => w1 i j
  | .inr i, .inr j => w2 i j
  | _, _ => 0

theorem sumW_inl (w1 : ι → ι → ℝ) (w2 : κ → κ → ℝ) (i : ι) :
    ∀ j ∉ Set.range (Sum.inl : ι → ι ⊕ κ), sumW w1 w2 (.inl i) j = 0
  | .inl j, hj => absurd ⟨j, rfl⟩ hj
  | .inr _, _ => rfl

variable [Fintype ι] [Fintype κ]

theorem row_sum_inl (w1 : ι → ι → ℝ) (w2 : κ → κ → ℝ) (σ1 : ι → ℝ) (σ2 : κ → ℝ) (x : ι ⊕ κ → ℝ) (i : ι) :
    row (sumW w1 w2) (Sum.elim σ1 σ2) x (.inl i) = row w1 σ1 (x ∘ Sum.inl) i :=
  (row_embed Sum.inl_injective (sumW w1 w2) (Sum.elim σ1 σ2) x i (sumW_inl w1 w2 i)).symm

variable [DecidableEq ι] [DecidableEq κ]

theorem row_sum_inr (w1 : ι → ι → ℝ) (w2 : κ → κ → ℝ) (σ1 : ι → ℝ) (σ2 : κ → ℝ) (x : ι ⊕ κ → ℝ) (k : κ) :
    row (sumW w1 w2) (Sum.elim σ1 σ2) x (.inr k) = row w2 σ2 (x ∘ Sum.inr) k :=
  (row_embed Sum.inr_injective (sumW w1 w2) (Sum.elim σ1 σ2) x k (fun j hj => by
    rcases j with j | j
    · rfl
    · exact absurd ⟨j, rfl⟩ hj)).symm

/-- a network without synapses: the part of the joint solution that belongs to a cell is that cell's own solution -/
theorem block_diagonal_independent [Nonempty ι] {w1 : ι → ι → ℝ} {w2 : κ → κ → ℝ} {σ1 : ι → ℝ} {σ2 : κ → ℝ}
    (h1 : Admissible w1 σ1) {x : ι ⊕ κ → ℝ} {b : ι ⊕ κ → ℝ} {y : ι → ℝ}
    (hx : ∀ n, row (sumW w1 w2) (Sum.elim σ1 σ2) x n = b n)
    (hy : ∀ i, row w1 σ1 y i = b (.inl i)) : x ∘ Sum.inl = y :=
  -- `sumW w1 w2 (inl a) (inl b)` is `w1 a b` and `Sum.elim σ1 σ2 ∘ inl` is `σ1`, by definition
  solution_restrict Sum.inl_injective (w := sumW w1 w2) (σ := Sum.elim σ1 σ2) h1 (sumW_inl w1 w2) hx hy

end block

section perm
variable {ι : Type} [Fintype ι]

/-- listing the nodes in another order permutes rows and solution and changes nothing else -/
theorem permutation_equivariant (e : ι ≃ ι) (w : ι → ι → ℝ) (σ x : ι → ℝ) (i : ι) :
    row (fun a b => w (e a) (e b)) (σ ∘ e) (x ∘ e) i = row w σ x (e i) :=
  row_embed e.injective w σ x i (fun j hj => absurd (e.surjective j) hj)

variable [DecidableEq ι]

/-- hence the solution of the re-ordered system is the re-ordered solution -/
theorem permuted_solution [Nonempty ι] (e : ι ≃ ι) {w : ι → ι → ℝ} {σ : ι → ℝ}
    (h : Admissible (fun a b => w (e a) (e b)) (σ ∘ e)) {x y b : ι → ℝ}
    (hx : ∀ i, row w σ x i = b i) (hy : ∀ i, row (fun a b => w (e a) (e b)) (σ ∘ e) y i = b (e i)) :
    y = x ∘ e :=
  (solution_restrict e.injective h (fun _ j hj => absurd (e.surjective j) hj) hx hy).symm

end perm

/-! ### table model: concatenation keeps every constituent row under contiguous indices -/

theorem concat_preserves_rows {Row : Type} (tables : List (List Row)) (k : Nat) (hk : k < tables.length)
    (i : Nat) (hi : i < tables[k].length) :
    ∃ g, g < tables.flatten.length ∧ tables.flatten[g]? = some (tables[k][i]) ∧
      g = ((tables.take k).map List.length).sum + i := by
  -- dropping the first `k` tables from the flattened list leaves `tables[k]` in front
  have h : tables.flatten[((tables.take k).map List.length).sum + i]? = some (tables[k][i]) := by
    rw [← List.getElem?_drop, List.map_take, List.drop_sum_flatten, ← List.getElem_cons_drop hk,
      List.flatten_cons, List.getElem?_append_left hi, List.getElem?_eq_getElem hi]
  exact ⟨_, (List.getElem?_eq_some_iff.mp h).1, h, rfl⟩

end JaxleyVerif.Props.C12
