/-
C06 — results do not depend on how the simulation is executed (the logic part).

Every `checkpoint_lengths` factorisation denotes the flat scan, and with `prod(checkpoint_lengths) ≥ nsteps` the recordings are
those of the un-checkpointed run (padded steps only influence rows that are cut off): `Model.integrateCore_some`.
Purity: `integrateCore` is a function from its arguments to its outputs — the module state is an argument, not a mutable
object (by type).  That the IMPLEMENTATION leaves the module untouched, and the jit / vmap halves of the property, are runtime
behaviour exercised by the harness.
-/
import JaxleyVerif.Lemmas.Scan

namespace JaxleyVerif.Props.C06
open JaxleyVerif.Model
variable {σ ι ο : Type}

theorem nested_scan_eq_scan (f : σ → ι → σ × ο) (ls : List Nat) (hls : ls ≠ []) (s : σ) (xs : List ι)
    (h : xs.length = prodL ls) : nested f ls s xs = scan f s xs := nested_eq_scan f ls hls s xs h

theorem recs_checkpoint_invariant (step : σ → ι → σ) (rec0 : σ → ο) (zero : ι) (s : σ) (xs : List ι)
    (ls : List Nat) (hlen : xs.length ≤ prodL ls) :
    (integrateCore step rec0 zero s xs (some ls)).1 = (integrateCore step rec0 zero s xs none).1 := by
  rw [integrateCore_some _ _ _ _ _ ls hlen, integrateCore_none]

/-- `h1`, `h2` are not used: the empty layout is the flat scan too (`Model.nested_eq_scan_any_layout`) -/
theorem recs_layout_independent (step : σ → ι → σ) (rec0 : σ → ο) (zero : ι) (s : σ) (xs : List ι)
    (l1 l2 : List Nat) (h1 : l1 ≠ []) (h2 : l2 ≠ []) (hl1 : xs.length ≤ prodL l1) (hl2 : xs.length ≤ prodL l2) :
    (integrateCore step rec0 zero s xs (some l1)).1 = (integrateCore step rec0 zero s xs (some l2)).1 := by
  rw [recs_checkpoint_invariant step rec0 zero s xs l1 hl1, recs_checkpoint_invariant step rec0 zero s xs l2 hl2]

theorem recs_length (step : σ → ι → σ) (rec0 : σ → ο) (zero : ι) (s : σ) (xs : List ι) :
    (integrateCore step rec0 zero s xs none).1.length = xs.length + 1 := by
  rw [integrateCore_none, List.length_map, List.length_scanl]

theorem recs_are_states (step : σ → ι → σ) (rec0 : σ → ο) (s : σ) (xs : List ι) :
    (scan (body step rec0) s (xs.map (fun x => (x, false)))).2
      = (List.range xs.length).map (fun k => rec0 ((xs.take (k + 1)).foldl step s)) := by
  have h := (scan_body step rec0 s xs).2
  rw [scanl_eq_folds, List.map_cons, List.map_map] at h
  exact (List.cons.inj h).2

/-- non-vacuity: 10 inputs, layout [4,4] -/
example : (integrateCore (fun (s : Nat) (x : Nat) => s + x) id 0 0 (List.range 10) (some [4, 4])).1
    = (integrateCore (fun (s : Nat) (x : Nat) => s + x) id 0 0 (List.range 10) none).1 := by decide

end JaxleyVerif.Props.C06
