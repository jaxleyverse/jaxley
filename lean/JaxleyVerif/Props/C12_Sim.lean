/-
C12 at the whole-simulation model `Model.Sim`: uncoupled parts simulate independently.
Purely structural: which rows of which tables the rows of the new state and of the linearisation depend on.
Every loop of the mechanism step is a vectorised call over rows; seen from row `j` (`Lemmas/Fold.lean`) it is the call for
row `j`.  So two runs — two modules, two states — are compared loop by loop (`foldl_view₂`), without writing the dependence out
as a function: if row `j` of one and row `j'` of the other carry the same `rowData` (the channels' classes, prefixes and flags for
the row, the row's parameters, the row of the state), the two rows agree afterwards as well.
-/
import JaxleyVerif.Props.C08_Sim
import JaxleyVerif.Props.C09_Sim
import JaxleyVerif.Lemmas.CableLength
import JaxleyVerif.Lemmas.Lists

namespace JaxleyVerif.Props.Sim
open JaxleyVerif JaxleyVerif.Model JaxleyVerif.Model.Step

/-- row `i` of the state: for every state name, the entry at index `i`, `none` if the array is not that long (why `[i]?`: see
`Lemmas/Fold.lean`) -/
def Row (u : State Float) (i : Nat) : String → Option Float := fun k => (getArr u k)[i]?

theorem Row_setArr (u : State Float) (k : String) (a : List Float) (j : Nat) (k' : String) :
    Row (setArr u k a) j k' = if k' = k then a[j]? else Row u j k' := by
  unfold Row
  rw [C08.getArr_setArr_eq]
  split <;> rfl

/-- a write into row `j` makes of the row a function of what it was: an entry that is there is replaced, one that is not there is
not created -/
theorem Row_setEntry_self {u u' : State Float} {j j' : Nat} (h : Row u j = Row u' j') (k : String) (x : Float) :
    Row (Model.Sim.setEntry u k j x) j = Row (Model.Sim.setEntry u' k j' x) j' := by
  funext k'
  unfold Model.Sim.setEntry
  rw [Row_setArr, Row_setArr, List.getElem?_set_self', List.getElem?_set_self']
  exact congrArg (fun r : String → Option Float => if k' = k then (r k).map (fun _ => x) else r k') h

theorem Row_setEntry_ne (u : State Float) (k : String) {i j : Nat} (x : Float) (h : i ≠ j) :
    Row (Model.Sim.setEntry u k i x) j = Row u j := by
  funext k'
  unfold Model.Sim.setEntry
  rw [Row_setArr]
  split
  · rename_i hk
    rw [List.getElem?_set_ne h, hk]
    rfl
  · rfl

/-- row `j` of an accumulator of `_channel_currents` -/
def accView (acc : Array Float × Array Float × List (String × Array Float)) (j : Nat) :
    Option Float × Option Float × List (String × Option Float) :=
  (acc.1[j]?, acc.2.1[j]?, acc.2.2.map (fun p => (p.1, p.2[j]?)))

theorem accView_modify_ne (acc : Array Float × Array Float × List (String × Array Float)) {i j : Nat} (hij : i ≠ j)
    (f g h : Float → Float) (cname : String) :
    accView (acc.1.modify i f, acc.2.1.modify i g,
        acc.2.2.map (fun p => if p.1 == cname then (p.1, p.2.modify i h) else p)) j = accView acc j := by
  unfold accView
  rw [Array.getElem?_modify, if_neg hij, Array.getElem?_modify, if_neg hij, List.map_map]
  refine congrArg (fun l => (_, _, l)) (List.map_congr_left fun p _ => ?_)
  dsimp only [Function.comp]
  split
  · rw [Array.getElem?_modify, if_neg hij]
  · rfl

theorem accView_modify_self (acc : Array Float × Array Float × List (String × Array Float)) (j : Nat)
    (f g h : Float → Float) (cname : String) :
    accView (acc.1.modify j f, acc.2.1.modify j g,
        acc.2.2.map (fun p => if p.1 == cname then (p.1, p.2.modify j h) else p)) j =
      ((accView acc j).1.map f, (accView acc j).2.1.map g,
        (accView acc j).2.2.map (fun q => if q.1 == cname then (q.1, q.2.map h) else q)) := by
  unfold accView
  rw [Array.getElem?_modify, if_pos rfl, Array.getElem?_modify, if_pos rfl, List.map_map, List.map_map]
  refine congrArg (fun l => (_, _, l)) (List.map_congr_left fun p _ => ?_)
  dsimp only [Function.comp]
  split
  · rw [Array.getElem?_modify, if_pos rfl]
  · rfl

/-- two folds in step, over lists that agree under a key: Mathlib's `List.rel_foldl` for the relation "the views agree" -/
theorem foldl_view₂ {σ σ' ρ ι ι' κ : Type} (view : σ → ρ) (view' : σ' → ρ) {body : σ → ι → σ} {body' : σ' → ι' → σ'}
    (key : ι → κ) (key' : ι' → κ)
    (h : ∀ s s' i i', key i = key' i' → view s = view' s' → view (body s i) = view' (body' s' i'))
    {L : List ι} {L' : List ι'} (hL : L.map key = L'.map key') {s : σ} {s' : σ'} (h0 : view s = view' s') :
    view (L.foldl body s) = view' (L'.foldl body' s') := by
  rw [← List.forall₂_eq_eq_eq, List.forall₂_map_left_iff, List.forall₂_map_right_iff] at hL
  exact List.rel_foldl (P := fun s s' => view s = view' s') (fun s s' hs i i' hi => h s s' i i' hi hs) h0 hL

theorem mem_members (c : Model.Sim.Chan) (j : Nat) : j ∈ Model.Sim.members c ↔ c.member.getD j false = true := by
  unfold Model.Sim.members
  rw [List.mem_filter, List.mem_range, and_iff_right_iff_imp]
  intro h
  by_contra hj
  rw [Array.getD_eq_getD_getElem?, Array.getElem?_eq_none (Nat.le_of_not_lt hj)] at h
  exact absurd h (by decide)

/-- `foldl_view_nodup` for two runs: a vectorised call over the member rows of a channel, seen from row `j` of the one and row
`j'` of the other -/
theorem members_foldl_view₂ {σ σ' ρ : Type} (view : σ → ρ) (view' : σ' → ρ) {body : σ → Nat → σ} {body' : σ' → Nat → σ'}
    (j j' : Nat) (hne : ∀ s i, i ≠ j → view (body s i) = view s) (hne' : ∀ s i, i ≠ j' → view' (body' s i) = view' s)
    (hj : ∀ s s', view s = view' s' → view (body s j) = view' (body' s' j'))
    (c c' : Model.Sim.Chan) (hc : c.member.getD j false = c'.member.getD j' false) {s : σ} {s' : σ'} (h : view s = view' s') :
    view ((Model.Sim.members c).foldl body s) = view' ((Model.Sim.members c').foldl body' s') := by
  have hnd : ∀ c, (Model.Sim.members c).Nodup := fun c => List.nodup_range.filter _
  obtain ⟨t, ht, e⟩ := foldl_view_nodup view body j hne _ (hnd c) s
  obtain ⟨t', ht', e'⟩ := foldl_view_nodup view' body' j' hne' _ (hnd c') s'
  -- either both loops make the call for the row, on states `t`, `t'` that look like `s`, `s'`, or neither does
  rw [e, e', if_congr ((mem_members c j).trans (hc ▸ (mem_members c' j').symm)) (hj t t' (ht.trans (h.trans ht'.symm))) h]

/-- what the channel loops read of row `r` apart from the state: per channel (class, prefix, membership flag of the row), the
parameter row -/
def rowStatic (m : SimModule) (r : Nat) : List (String × String × Bool) × (String → Float) :=
  (m.chans.map (fun c => (c.name, c.pfx, c.member.getD r false)), Model.Sim.nodeParamAt m r)

/-- what the channel part of the mechanism step reads of row `r`: `rowStatic` and the state row -/
def rowData (m : SimModule) (u : State Float) (r : Nat) :
    List (String × String × Bool) × (String → Float) × (String → Option Float) :=
  (m.chans.map (fun c => (c.name, c.pfx, c.member.getD r false)), Model.Sim.nodeParamAt m r, Row u r)

section rowwise
variable {m m' : SimModule} {u u' : State Float} {j j' : Nat}

theorem rowData_eq_iff : rowData m u j = rowData m' u' j' ↔ rowStatic m j = rowStatic m' j' ∧ Row u j = Row u' j' := by
  rw [rowData, rowData, rowStatic, rowStatic, Prod.mk.injEq, Prod.mk.injEq, Prod.mk.injEq, and_assoc]

theorem rowData_congr (hs : rowStatic m j = rowStatic m' j') (hr : Row u j = Row u' j') :
    rowData m u j = rowData m' u' j' := rowData_eq_iff.mpr ⟨hs, hr⟩

/-- the kernels are handed the row as a total function -/
theorem stateAt_of_Row (h : Row u j = Row u' j') : Model.Sim.stateAt u j = Model.Sim.stateAt u' j' :=
  funext fun k => congrArg (fun r : String → Option Float => (r k).getD Model.Sim.nan) h

/-- (C12) **row `j` after `_step_channels_state` depends on `rowData m u j` only** — on no other row of any table: every channel
that contains the row writes its kernel's results, computed from the row as the earlier channels left it and from the row's
voltage BEFORE the update -/
theorem Row_stepChannelsState (dt : Float) (hd : rowData m u j = rowData m' u' j') :
    Row (Model.Sim.stepChannelsState m dt u) j = Row (Model.Sim.stepChannelsState m' dt u') j' := by
  obtain ⟨hs, hrow⟩ := rowData_eq_iff.mp hd
  obtain ⟨hch, hpr⟩ := Prod.mk.inj hs
  have hv : (getArr u "v").getD j Model.Sim.nan = (getArr u' "v").getD j' Model.Sim.nan :=
    congrFun (stateAt_of_Row hrow) "v"
  unfold Model.Sim.stepChannelsState
  refine foldl_view₂ (Row · j) (Row · j') _ _ (fun w w' c c' hc hw => ?_) hch hrow
  rw [Prod.mk.injEq, Prod.mk.injEq] at hc
  rw [List.foldl_map, List.foldl_map]
  refine members_foldl_view₂ (Row · j) (Row · j') j j' (fun s i h => ?_) (fun s i h => ?_) (fun s s' h => ?_) c c'
    hc.2.2 hw
  · exact foldl_view_fixed (Row · j) s (fun u kx _ => Row_setEntry_ne u kx.1 kx.2 h)
  · exact foldl_view_fixed (Row · j') s (fun u kx _ => Row_setEntry_ne u kx.1 kx.2 h)
  · -- the two calls for the row read `w`, `w'` (the states before this channel) and get the same arguments, so they write
    -- the same results
    rw [hc.1, hc.2.1, hpr, stateAt_of_Row hw, hv]
    exact foldl_view₂ (Row · j) (Row · j') id id (fun _ _ kx _ e h => by cases e; exact Row_setEntry_self h kx.1 kx.2) rfl h

theorem currentNames_congr (hch : m.chans.map (fun c => (c.name, c.pfx, c.member.getD j false)) =
    m'.chans.map (fun c => (c.name, c.pfx, c.member.getD j' false))) :
    Model.Sim.currentNames m = Model.Sim.currentNames m' :=
  foldl_view₂ id id _ _ (fun acc acc' c c' hc h => by
    rw [Prod.mk.injEq, Prod.mk.injEq] at hc
    rw [show acc = acc' from h, hc.1, hc.2.1]) hch rfl

/-- the end of `_channel_currents` seen from a row: the current arrays are stored under their names (the last one written under
a name stays), the two term arrays are returned as they are -/
theorem channelCurrents_row_of_acc {r r' : Array Float × Array Float × List (String × Array Float)}
    (hr : accView r j = accView r' j') (hrow : Row u j = Row u' j') :
    (Row (r.2.2.foldl (fun u p => setArr u p.1 p.2.toList) u) j, r.1[j]?, r.2.1[j]?) =
      (Row (r'.2.2.foldl (fun u p => setArr u p.1 p.2.toList) u') j', r'.1[j']?, r'.2.1[j']?) := by
  refine Prod.ext (funext fun k' => ?_) (congrArg (fun a => (a.1, a.2.1)) hr)
  refine foldl_view₂ (Row · j k') (Row · j' k') (fun p => (p.1, p.2[j]?)) (fun p => (p.1, p.2[j']?))
    (fun w w' p p' hp hw => ?_) (congrArg (·.2.2) hr) (congrFun hrow k')
  rw [Prod.mk.injEq] at hp
  rw [Row_setArr, Row_setArr, Array.getElem?_toList, Array.getElem?_toList, hw, hp.1, hp.2]

/-- (C12) **row `j` of what `_channel_currents` returns** (the row of the state with the currents stored, `voltage_terms[j]`,
`constant_terms[j]`) depends on the row's data and on whether the row exists only: starting from `0.0`, every channel that
contains the row adds its secant terms and, under its current's name, its current -/
theorem channelCurrents_row (hn : j < Model.Sim.ncompTotal m ↔ j' < Model.Sim.ncompTotal m')
    (hd : rowData m u j = rowData m' u' j') :
    (Row (Model.Sim.channelCurrents m u).1 j, (Model.Sim.channelCurrents m u).2.1[j]?,
        (Model.Sim.channelCurrents m u).2.2[j]?) =
      (Row (Model.Sim.channelCurrents m' u').1 j', (Model.Sim.channelCurrents m' u').2.1[j']?,
        (Model.Sim.channelCurrents m' u').2.2[j']?) := by
  obtain ⟨hs, hrow⟩ := rowData_eq_iff.mp hd
  obtain ⟨hch, hpr⟩ := Prod.mk.inj hs
  have hv : (getArr u "v").getD j Model.Sim.nan = (getArr u' "v").getD j' Model.Sim.nan :=
    congrFun (stateAt_of_Row hrow) "v"
  unfold Model.Sim.channelCurrents
  -- `channelCurrents_row_of_acc` takes the two accumulators (the folds over the channels) as its `r`, `r'` by unification;
  -- their rows (`accView`) agree loop by loop
  refine channelCurrents_row_of_acc
    (foldl_view₂ (accView · j) (accView · j') _ _ (fun a a' c c' hc ha => ?_) hch ?_) hrow
  · rw [Prod.mk.injEq, Prod.mk.injEq] at hc
    refine members_foldl_view₂ (accView · j) (accView · j') j j' (fun s i h => ?_) (fun s i h => ?_) (fun s s' h => ?_)
      c c' hc.2.2 ha
    · exact accView_modify_ne s h _ _ _ _
    · exact accView_modify_ne s h _ _ _ _
    · -- `u`, `u'` are not written in this loop, so `hrow` serves every channel; the two calls add the same terms to entries
      -- that agree (`h`)
      rw [hc.1, hc.2.1, hpr, stateAt_of_Row hrow, hv, accView_modify_self, accView_modify_self, h]
  · -- the start: entry `j` of the zero arrays, under the names `currentNames` computes from the (class, prefix) list
    have hz : (Array.replicate (Model.Sim.ncompTotal m) (0.0 : Float))[j]? =
        (Array.replicate (Model.Sim.ncompTotal m') 0.0)[j']? := by
      rw [Array.getElem?_replicate, Array.getElem?_replicate, if_congr hn rfl rfl]
    unfold accView
    rw [List.map_map, List.map_map, currentNames_congr hch, hz]
    exact congrArg (fun f => (_, _, List.map f _)) (funext fun k => congrArg (Prod.mk k) hz)

end rowwise

/-- (C12) **the channel state update is row-wise** -/
theorem sim_mech_rowwise_states (m m' : SimModule) (dt : Float) (u u' : State Float) (j : Nat)
    (hch : m.chans.map (fun c => (c.name, c.pfx, c.member.getD j false)) =
      m'.chans.map (fun c => (c.name, c.pfx, c.member.getD j false)))
    (hpr : Model.Sim.nodeParamAt m j = Model.Sim.nodeParamAt m' j) (hrow : Row u j = Row u' j) :
    Row (Model.Sim.stepChannelsState m dt u) j = Row (Model.Sim.stepChannelsState m' dt u') j :=
  Row_stepChannelsState dt (by rw [rowData, rowData, hch, hpr, hrow])

/-- (C12) **the channel linearisation is row-wise** -/
theorem sim_mech_rowwise_terms (m m' : SimModule) (u u' : State Float) (j : Nat)
    (hn : (j < Model.Sim.ncompTotal m) ↔ (j < Model.Sim.ncompTotal m'))
    (hch : m.chans.map (fun c => (c.name, c.pfx, c.member.getD j false)) =
      m'.chans.map (fun c => (c.name, c.pfx, c.member.getD j false)))
    (hpr : Model.Sim.nodeParamAt m j = Model.Sim.nodeParamAt m' j) (hrow : Row u j = Row u' j) :
    ((Model.Sim.channelCurrents m u).2.1[j]?, (Model.Sim.channelCurrents m u).2.2[j]?) =
      ((Model.Sim.channelCurrents m' u').2.1[j]?, (Model.Sim.channelCurrents m' u').2.2[j]?) :=
  congrArg Prod.snd (channelCurrents_row hn (by rw [rowData, rowData, hch, hpr, hrow]))

section step
open JaxleyVerif.Model.Cable

/-- the linearisation `gm` the mechanism step stores for the solver when there are no synapses (`+ 0`: the zero the synaptic
accumulation starts from; it stays, nothing is assumed about `Float.add`) -/
def gmOf (m : SimModule) (dt : Float) (u : State Float) : List Float :=
  (List.range (Model.Sim.ncompTotal m)).map (fun i =>
    (Model.Sim.channelCurrents m (Model.Sim.stepChannelsState m dt u)).2.1.getD i 0.0 + (0 : Float))
def kmOf (m : SimModule) (dt : Float) (u : State Float) : List Float :=
  (List.range (Model.Sim.ncompTotal m)).map (fun i =>
    (Model.Sim.channelCurrents m (Model.Sim.stepChannelsState m dt u)).2.2.getD i 0.0 + (0 : Float))

/-- the new voltages of cell `k` : the solve of that cell on its slices of the old voltages, of the channel linearisation
and of the stimulus -/
def stepBlock (m : SimModule) (solver : String) (dt : Float) (u : State Float) (exts : List (Ext Float)) (k : Nat) :
    List Float :=
  solveCell solver dt (Model.Sim.cellIn m k (getArr u "v").toArray (gmOf m dt u).toArray (kmOf m dt u).toArray
    (Model.Sim.iExt m (exts.map (toLocal m))).toArray)

theorem keyGm_ne_keyKm : Model.Sim.keyGm ≠ Model.Sim.keyKm := by decide

/-- the state the mechanism step of a module without synapses returns (`sim_no_synapses`) -/
def mechNoSyn (m : SimModule) (dt : Float) (u : State Float) : State Float :=
  setArr (setArr (Model.Sim.channelCurrents m (Model.Sim.stepChannelsState m dt u)).1 Model.Sim.keyGm (gmOf m dt u))
    Model.Sim.keyKm (kmOf m dt u)

/-- (C12) the state returned by one step (module without synapses, stimuli as the only externals), written out -/
theorem sim_step_state (m : SimModule) (solver : String) (dt : Float) (u : State Float) (exts : List (Ext Float))
    (hm : m.syns = []) (hk : ∀ e ∈ exts, e.key = "i") :
    Model.Sim.step m solver dt u exts =
      setArr (mechNoSyn m dt u) "v" ((List.range m.cells.length).flatMap (stepBlock m solver dt u exts)) := by
  have hk' : ∀ e ∈ exts.map (toLocal m), e.key = "i" := List.forall_mem_map.mpr hk
  rw [sim_step_eq, step_stim_only _ _ _ _ _ hk', sim_solve_cellwise, sim_no_synapses m hm, C08.getArr_setArr,
    getArr_setArr_ne _ _ _ _ keyGm_ne_keyKm, C08.getArr_setArr]
  rfl

/-- (C12) **the voltages after one step are the concatenation of the cells' blocks** (module without synapses, stimuli as the
only externals) -/
theorem sim_step_v_blocks (m : SimModule) (solver : String) (dt : Float) (u : State Float) (exts : List (Ext Float))
    (hm : m.syns = []) (hk : ∀ e ∈ exts, e.key = "i") :
    getArr (Model.Sim.step m solver dt u exts) "v" =
      (List.range m.cells.length).flatMap (stepBlock m solver dt u exts) := by
  rw [sim_step_state m solver dt u exts hm hk, C08.getArr_setArr]

/-- the stimulus samples of one external that hit row `r`, in order -/
def valsAt (e : Ext Float) (r : Nat) : List Float := ((e.inds.zip e.vals).filter (fun iv => iv.1 == r)).map (·.2)

section rowwise
variable {m m' : SimModule} {u u' : State Float} {r r' : Nat}

/-- (C12) **the mechanism step of a module without synapses is row-wise** (for rows that exist): the channel states, the
stored currents and, under the two reserved keys, the linearisation handed to the solve -/
theorem mech_row (dt : Float) (hr : r < Model.Sim.ncompTotal m) (hr' : r' < Model.Sim.ncompTotal m')
    (hd : rowData m u r = rowData m' u' r') : Row (mechNoSyn m dt u) r = Row (mechNoSyn m' dt u') r' := by
  have hn := iff_of_true hr hr'
  -- the rows' data still agree after the channel-state update, so `channelCurrents_row` applies: `gm`, `km` are its two
  -- entries, every other name is in its row
  obtain ⟨hrow, hgk⟩ := Prod.mk.inj
    (channelCurrents_row hn (rowData_congr (rowData_eq_iff.mp hd).1 (Row_stepChannelsState dt hd)))
  obtain ⟨hg, hk⟩ := Prod.mk.inj hgk
  funext k'
  unfold mechNoSyn gmOf kmOf
  simp only [Row_setArr, List.getElem?_map, List.getElem?_range hr, List.getElem?_range hr', Option.map_some,
    Array.getD_eq_getD_getElem?]
  rw [hrow, hg, hk]

/-- (C12) **the stimulus of row `r` depends on the samples addressed to row `r` only** -/
theorem iExt_row (hr : r < Model.Sim.ncompTotal m) (hr' : r' < Model.Sim.ncompTotal m') {E E' : List (Ext Float)}
    (hE : E.map (fun e => (e.key, valsAt e r)) = E'.map (fun e => (e.key, valsAt e r'))) :
    (Model.Sim.iExt m E)[r]? = (Model.Sim.iExt m' E')[r']? := by
  unfold Model.Sim.iExt
  refine foldl_view₂ (·[r]?) (·[r']?) _ _ (fun acc acc' e e' he h => ?_) hE
    (by rw [List.getElem?_replicate_of_lt hr, List.getElem?_replicate_of_lt hr'])
  rw [Prod.mk.injEq] at he
  dsimp only
  rw [he.1]
  split
  · unfold valsAt at he
    simp only [List.getElem?_map, List.getElem?_range hr, List.getElem?_range hr', Option.map_some,
      List.getD_eq_getElem?_getD, h]
    rw [C08.scatterAdd_get _ r hr, C08.scatterAdd_get _ r' hr', he.2]
  · exact h

end rowwise

/-- (C12) **one step is independent cell by cell** (no synapses, stimuli only; `stepBlock … k` is cell `k`'s block by
`sim_step_v_blocks`): agreement on cell `k`'s entry of `cells` and, row by row over the cell (row `i` is global row
`cellOffsets … k + i`), on `comps`, `rowData` and the stimulus samples addressed to the row gives the same new voltages of
cell `k` -/
theorem sim_step_cell_independent (m m' : SimModule) (solver : String) (dt : Float) (u u' : State Float)
    (exts exts' : List (Ext Float)) (k : Nat)
    (hc : m.cells.getD k ([], []) = m'.cells.getD k ([], []))
    (hin : (Model.Sim.cellOffsets m).getD k 0 + nTotal (m.cells.getD k ([], [])).2 ≤ Model.Sim.ncompTotal m)
    (hin' : (Model.Sim.cellOffsets m').getD k 0 + nTotal (m.cells.getD k ([], [])).2 ≤ Model.Sim.ncompTotal m')
    (hrows : ∀ i, i < nTotal (m.cells.getD k ([], [])).2 →
      m.comps.getD ((Model.Sim.cellOffsets m).getD k 0 + i) default =
        m'.comps.getD ((Model.Sim.cellOffsets m').getD k 0 + i) default ∧
      rowData m u ((Model.Sim.cellOffsets m).getD k 0 + i) = rowData m' u' ((Model.Sim.cellOffsets m').getD k 0 + i) ∧
      (exts.map (toLocal m)).map (fun e => (e.key, valsAt e ((Model.Sim.cellOffsets m).getD k 0 + i))) =
        (exts'.map (toLocal m')).map (fun e => (e.key, valsAt e ((Model.Sim.cellOffsets m').getD k 0 + i)))) :
    stepBlock m solver dt u exts k = stepBlock m' solver dt u' exts' k := by
  unfold stepBlock
  refine sim_cell_block_independent m m' solver dt k _ _ _ _ _ _ _ _ hc (fun i hi => (hrows i hi).1) (fun i hi => ?_)
  obtain ⟨-, hd, he⟩ := hrows i hi
  have hr := Nat.lt_of_lt_of_le (Nat.add_lt_add_left hi ((Model.Sim.cellOffsets m).getD k 0)) hin
  have hr' := Nat.lt_of_lt_of_le (Nat.add_lt_add_left hi ((Model.Sim.cellOffsets m').getD k 0)) hin'
  -- `gm[r]`, `km[r]` are the entries of `mech_row`'s row under the two reserved keys, `v[r]` is in `rowData`, the stimulus is
  -- `iExt_row`
  have hrow := mech_row dt hr hr' hd
  unfold mechNoSyn at hrow
  have hg := congrFun hrow Model.Sim.keyGm
  have hkm := congrFun hrow Model.Sim.keyKm
  simp only [Row_setArr, if_neg keyGm_ne_keyKm, if_true] at hg hkm
  simp only [Array.getD_eq_getD_getElem?, List.getElem?_toArray]
  rw [hg, hkm, iExt_row hr hr' he]
  exact ⟨congrArg (fun t : _ × _ × (String → Option Float) => (t.2.2 "v").getD 0.0) hd, rfl, rfl, rfl⟩

end step

section rows
open JaxleyVerif.Model.Cable

/-- the cell solvers return one voltage per compartment for this (module, solver): implicit solvers always, forward Euler
when no cell has a branch point (otherwise the code refuses to run, see `Sim.accepts`) -/
def solverOkB (m : SimModule) (solver : String) : Bool :=
  solver == "bwd_euler" || solver == "crank_nicolson" || !Model.Sim.refusesFwd m

/-- hypothesis: `cellOffsets` are the running sums of the cells' compartment counts (true of every module by the shape of
`cellOffsets`; not proved here) -/
def offsetsOkB (m : SimModule) : Bool :=
  (List.range m.cells.length).all (fun k =>
    (Model.Sim.cellOffsets m).getD k 0 ==
      ((List.range k).map (fun j => nTotal (m.cells.getD j ([], [])).2)).foldl (· + ·) 0)

theorem solveCell_length (solver : String) (dt : Float) (c : CellIn Float)
    (h : solver = "bwd_euler" ∨ solver = "crank_nicolson" ∨ (stepFwd c dt).isSome = true) :
    (solveCell solver dt c).length = nTotal c.ncomp := by
  unfold solveCell
  split
  · exact stepBwd_length c dt
  · exact stepCN_length c dt
  · rename_i h1 h2
    rcases h with h | h | h
    · exact absurd h h1
    · exact absurd h h2
    · obtain ⟨l, hl⟩ := Option.isSome_iff_exists.mp h
      rw [hl]
      exact stepFwd_length c dt l hl

/-- no refused forward step: `cellIn` copies `parents`, `ncomp` from cell `k`, and no cell has a branch point -/
theorem stepFwd_cellIn_isSome (m : SimModule) (h : Model.Sim.refusesFwd m = false) (k : Nat) (hk : k < m.cells.length)
    (v gm km istim : Array Float) (dt : Float) : (stepFwd (Model.Sim.cellIn m k v gm km istim) dt).isSome = true := by
  rw [stepFwd_isSome]
  have hmem : m.cells.getD k ([], []) ∈ m.cells := by
    rw [List.getD_eq_getElem?_getD, List.getElem?_eq_getElem hk]
    exact List.getElem_mem hk
  exact congrArg (!·) (Bool.eq_false_iff.mpr (List.any_eq_false.mp h _ hmem))

theorem block_length (m : SimModule) (solver : String) (dt : Float) (u : State Float) (exts : List (Ext Float)) (k : Nat)
    (hs : solverOkB m solver = true) (hk : k < m.cells.length) :
    (stepBlock m solver dt u exts k).length = nTotal (m.cells.getD k ([], [])).2 := by
  unfold stepBlock
  rw [solveCell_length]
  · rfl
  · unfold solverOkB at hs
    simp only [Bool.or_eq_true, beq_iff_eq, Bool.not_eq_true'] at hs
    rcases hs with (h | h) | h
    · exact Or.inl h
    · exact Or.inr (Or.inl h)
    · exact Or.inr (Or.inr (stepFwd_cellIn_isSome m h k hk _ _ _ _ dt))

theorem flatMap_range_length {α : Type} (f : Nat → List α) (g : Nat → Nat) (n : Nat)
    (h : ∀ j, j < n → (f j).length = g j) :
    ((List.range n).flatMap f).length = ((List.range n).map g).foldl (· + ·) 0 := by
  rw [List.length_flatMap, List.sum_eq_foldl, List.map_congr_left (fun j hj => h j (List.mem_range.mp hj))]

theorem flatMap_range_get {α : Type} (f : Nat → List α) (g : Nat → Nat) (n : Nat) (h : ∀ j, j < n → (f j).length = g j)
    (k : Nat) (hk : k < n) (i : Nat) (hi : i < g k) :
    ((List.range n).flatMap f)[((List.range k).map g).foldl (· + ·) 0 + i]? = (f k)[i]? := by
  have hb : ∀ x, (List.range n)[k]? = some x → i < (f x).length := fun x hx => by
    rw [List.getElem?_range hk] at hx
    cases hx
    exact (h k hk).symm ▸ hi
  have hoff := getElem?_flatMap_offset f (List.range n) k i hb
  rwa [List.take_range, Nat.min_eq_left hk.le, flatMap_range_length f g k (fun j hj => h j (hj.trans hk)),
    List.getElem?_range hk] at hoff

theorem cellOffsets_of_ok (m : SimModule) (hoff : offsetsOkB m = true) (k : Nat) (hk : k < m.cells.length) :
    (Model.Sim.cellOffsets m).getD k 0 =
      ((List.range k).map (fun j => nTotal (m.cells.getD j ([], [])).2)).foldl (· + ·) 0 :=
  beq_iff_eq.mp (List.all_eq_true.mp hoff k (List.mem_range.mpr hk))

/-- (C12) **row `off_k + i` of the new voltage array is entry `i` of cell `k`'s block** -/
theorem v_row_block (m : SimModule) (solver : String) (dt : Float) (u : State Float) (exts : List (Ext Float))
    (hm : m.syns = []) (hke : ∀ e ∈ exts, e.key = "i") (hs : solverOkB m solver = true) (hoff : offsetsOkB m = true)
    (k : Nat) (hk : k < m.cells.length) (i : Nat) (hi : i < nTotal (m.cells.getD k ([], [])).2) :
    (getArr (Model.Sim.step m solver dt u exts) "v")[(Model.Sim.cellOffsets m).getD k 0 + i]? =
      (stepBlock m solver dt u exts k)[i]? := by
  rw [sim_step_v_blocks m solver dt u exts hm hke, cellOffsets_of_ok m hoff k hk]
  exact flatMap_range_get _ _ _ (fun j hj => block_length m solver dt u exts j hs hj) k hk i hi

/-- the static hypotheses of cell independence, for cell `k` of two modules -/
structure CellAgree (m m' : SimModule) (solver : String) (k : Nat) : Prop where
  syn : m.syns = []
  syn' : m'.syns = []
  sol : solverOkB m solver = true
  sol' : solverOkB m' solver = true
  off : offsetsOkB m = true
  off' : offsetsOkB m' = true
  hk : k < m.cells.length
  hk' : k < m'.cells.length
  cell : m.cells.getD k ([], []) = m'.cells.getD k ([], [])
  inb : (Model.Sim.cellOffsets m).getD k 0 + nTotal (m.cells.getD k ([], [])).2 ≤ Model.Sim.ncompTotal m
  inb' : (Model.Sim.cellOffsets m').getD k 0 + nTotal (m.cells.getD k ([], [])).2 ≤ Model.Sim.ncompTotal m'
  rows : ∀ i, i < nTotal (m.cells.getD k ([], [])).2 →
    m.comps.getD ((Model.Sim.cellOffsets m).getD k 0 + i) default =
      m'.comps.getD ((Model.Sim.cellOffsets m').getD k 0 + i) default ∧
    rowStatic m ((Model.Sim.cellOffsets m).getD k 0 + i) = rowStatic m' ((Model.Sim.cellOffsets m').getD k 0 + i)

theorem CellAgree.row_lt {m m' : SimModule} {solver : String} {k i : Nat} (hA : CellAgree m m' solver k)
    (hi : i < nTotal (m.cells.getD k ([], [])).2) : (Model.Sim.cellOffsets m).getD k 0 + i < Model.Sim.ncompTotal m :=
  Nat.lt_of_lt_of_le (Nat.add_lt_add_left hi _) hA.inb

theorem CellAgree.row_lt_snd {m m' : SimModule} {solver : String} {k i : Nat} (hA : CellAgree m m' solver k)
    (hi : i < nTotal (m.cells.getD k ([], [])).2) : (Model.Sim.cellOffsets m').getD k 0 + i < Model.Sim.ncompTotal m' :=
  Nat.lt_of_lt_of_le (Nat.add_lt_add_left hi _) hA.inb'

/-- the stimuli of one step agree on the rows of cell `k` (and there are no other externals) -/
def StimAgree (m m' : SimModule) (k : Nat) (exts exts' : List (Ext Float)) : Prop :=
  (∀ e ∈ exts, e.key = "i") ∧ (∀ e ∈ exts', e.key = "i") ∧
  ∀ i, i < nTotal (m.cells.getD k ([], [])).2 →
    (exts.map (toLocal m)).map (fun e => (e.key, valsAt e ((Model.Sim.cellOffsets m).getD k 0 + i))) =
      (exts'.map (toLocal m')).map (fun e => (e.key, valsAt e ((Model.Sim.cellOffsets m').getD k 0 + i)))

def RowsAgree (m m' : SimModule) (k : Nat) (u u' : State Float) : Prop :=
  ∀ i, i < nTotal (m.cells.getD k ([], [])).2 →
    Row u ((Model.Sim.cellOffsets m).getD k 0 + i) = Row u' ((Model.Sim.cellOffsets m').getD k 0 + i)

/-- (C12) **after one step the full state rows of cell `k` depend on cell `k` only** (every state name: voltages, channel
states, stored currents, the stored linearisation), when neither module has a synapse and every external of the step, of
any cell, is a stimulus (`CellAgree`, `StimAgree`) -/
theorem sim_step_rows_cell_independent (m m' : SimModule) (solver : String) (dt : Float) (k : Nat)
    (hA : CellAgree m m' solver k) (u u' : State Float) (exts exts' : List (Ext Float))
    (hS : StimAgree m m' k exts exts') (hR : RowsAgree m m' k u u') :
    RowsAgree m m' k (Model.Sim.step m solver dt u exts) (Model.Sim.step m' solver dt u' exts') := by
  obtain ⟨hke, hke', hst⟩ := hS
  have hd : ∀ i, i < nTotal (m.cells.getD k ([], [])).2 → rowData m u ((Model.Sim.cellOffsets m).getD k 0 + i) =
      rowData m' u' ((Model.Sim.cellOffsets m').getD k 0 + i) := fun i hi => rowData_congr (hA.rows i hi).2 (hR i hi)
  have hblock : stepBlock m solver dt u exts k = stepBlock m' solver dt u' exts' k :=
    sim_step_cell_independent m m' solver dt u u' exts exts' k hA.cell hA.inb hA.inb'
      (fun i hi => ⟨(hA.rows i hi).1, hd i hi, hst i hi⟩)
  intro i hi
  -- "v": entry `i` of cell `k`'s block (`v_row_block`), and the blocks agree (`hblock`); any other name: `mech_row` on equal
  -- `rowData` (`hd`)
  funext k'
  by_cases hv : k' = "v"
  · subst hv
    unfold Row
    rw [v_row_block m solver dt u exts hA.syn hke hA.sol hA.off k hA.hk i hi,
      v_row_block m' solver dt u' exts' hA.syn' hke' hA.sol' hA.off' k hA.hk' i (hA.cell ▸ hi), hblock]
  · rw [sim_step_state m solver dt u exts hA.syn hke, sim_step_state m' solver dt u' exts' hA.syn' hke', Row_setArr, Row_setArr,
      if_neg hv, if_neg hv, mech_row dt (hA.row_lt hi) (hA.row_lt_snd hi) (hd i hi)]

/-- (C12) **a run is independent cell by cell**: starting from states whose rows of cell `k` agree, after any number of steps
in which the stimuli delivered to cell `k`'s rows agree, the full state rows of cell `k` agree — whatever the rows of the other
cells hold and whichever stimuli they receive, as long as neither module has any synapse, no step has a clamp and the two
modules list the same channel classes in the same order (`rowStatic` has one entry per channel of the MODULE, so a channel that
only another cell carries has to be listed by both) (`CellAgree`, `StimAgree`) -/
theorem sim_run_cell_independent (m m' : SimModule) (solver : String) (dt : Float) (k : Nat)
    (hA : CellAgree m m' solver k) (E E' : List (List (Ext Float))) (hE : List.Forall₂ (StimAgree m m' k) E E')
    (s s' : State Float) (hR : RowsAgree m m' k s s') :
    RowsAgree m m' k (E.foldl (Model.Sim.step m solver dt) s) (E'.foldl (Model.Sim.step m' solver dt) s') :=
  List.rel_foldl (P := RowsAgree m m' k) (R := StimAgree m m' k)
    (fun s s' hR _ _ hx => sim_step_rows_cell_independent m m' solver dt k hA s s' _ _ hx hR) hR hE

/-- (C12) `get_all_states` (the initial currents) is row-wise as well (module without synapses) -/
theorem sim_init_rows_cell_independent (m m' : SimModule) (solver : String) (k : Nat) (hA : CellAgree m m' solver k)
    (u u' : State Float) (hR : RowsAgree m m' k u u') :
    RowsAgree m m' k (Model.Sim.initState m u) (Model.Sim.initState m' u') := by
  rw [initState_no_synapses m hA.syn, initState_no_synapses m' hA.syn']
  exact fun i hi => congrArg Prod.fst (channelCurrents_row (iff_of_true (hA.row_lt hi) (hA.row_lt_snd hi))
    (rowData_congr (hA.rows i hi).2 (hR i hi)))

/-- (C12) the same (same restrictions) for the `stateAfter` of `integrate`: the rows of cell `k` after `n` steps of two
simulations agree -/
theorem sim_stateAfter_cell_independent (m m' : SimModule) (solver : String) (dt : Float) (k : Nat)
    (hA : CellAgree m m' solver k) (u0 u0' : State Float) (hR : RowsAgree m m' k u0 u0')
    (E E' : List (List (Ext Float))) (hE : List.Forall₂ (StimAgree m m' k) E E') (n : Nat) :
    RowsAgree m m' k (stateAfter m solver dt u0 E n) (stateAfter m' solver dt u0' E' n) :=
  sim_run_cell_independent m m' solver dt k hA _ _ (List.forall₂_take n hE) _ _
    (sim_init_rows_cell_independent m m' solver k hA u0 u0' hR)

theorem record_of_row (m : SimModule) (u : State Float) (key : String) (idx : Nat) (x : Float)
    (hloc : m.edgeStates.contains key = false) (hx : Row u idx key = some x) :
    Model.Sim.record m [(key, idx)] u = [x] := by
  unfold Row at hx
  have hlt := (List.getElem?_eq_some_iff.mp hx).1
  unfold Model.Sim.record
  rw [List.map_cons, List.map_nil]
  dsimp only
  rw [localInd_of_not_edge m key hloc, Nat.min_eq_left (Nat.le_sub_one_of_lt hlt), List.getD_eq_getElem?_getD, hx]
  rfl

/-- (C12) **a recording inside cell `k` reads the same value in both simulations** (compartment-indexed state whose array
covers the recorded row) -/
theorem sim_record_cell_independent (m m' : SimModule) (k : Nat) (u u' : State Float) (hR : RowsAgree m m' k u u')
    (key : String) (i : Nat) (hi : i < nTotal (m.cells.getD k ([], [])).2) (x : Float)
    (hloc : m.edgeStates.contains key = false) (hloc' : m'.edgeStates.contains key = false)
    (hx : Row u ((Model.Sim.cellOffsets m).getD k 0 + i) key = some x) :
    Model.Sim.record m [(key, (Model.Sim.cellOffsets m).getD k 0 + i)] u =
      Model.Sim.record m' [(key, (Model.Sim.cellOffsets m').getD k 0 + i)] u' := by
  have hx' : Row u' ((Model.Sim.cellOffsets m').getD k 0 + i) key = some x := by
    rw [← hR i hi]; exact hx
  rw [record_of_row m u key _ x hloc hx, record_of_row m' u' key _ x hloc' hx']

end rows

/-- the example module of `C08_Sim` has no synapses, so `sim_no_synapses`, `sim_step_v_blocks` apply to it -/
example : exM.syns = [] := rfl

example (solver : String) (dt : Float) (u : State Float) :
    getArr (Model.Sim.step exM solver dt u []) "v" =
      (List.range exM.cells.length).flatMap (stepBlock exM solver dt u []) :=
  sim_step_v_blocks exM solver dt u [] rfl (fun _ h => by simp at h)

/-- the structural hypotheses of the run theorems hold for the example module (with itself as the second module) -/
example : solverOkB exM "bwd_euler" = true ∧ solverOkB exM "fwd_euler" = true ∧ offsetsOkB exM = true := by decide

example : CellAgree exM exM "bwd_euler" 0 :=
  { syn := rfl, syn' := rfl, sol := by decide, sol' := by decide, off := by decide, off' := by decide,
    hk := by decide, hk' := by decide, cell := rfl, inb := by decide, inb' := by decide,
    rows := fun _ _ => ⟨rfl, rfl⟩ }

end JaxleyVerif.Props.Sim
