/-
C02 — axial coupling conserves charge, is reciprocal and never overshoots.

All statements are about the cable system in its symmetric (absolute-current) form
   (σ i + Σ_j w i j)·x i − Σ_j w i j·x j = σ i·u i ,     w i j = w j i = 10³·G_ij  (µA/mV),
   σ i = C_i/dt + A_i·gm_i  and  σ i·u i = C_i·v_i/dt + A_i·gm_i·E_i + 10⁻³·I_i  for compartments, σ = 0 for branch points,
to which the implementation's rows are related by the positive row factors proved in C01
(`couplingCond_eq_spec`, `bpCond_eq_spec`, `impact_eq_spec`, `stim_conversion`, `couplingCond_symmetric`).
-/
import Mathlib.Data.Real.Basic
import Mathlib.Tactic.NormNum
import JaxleyVerif.Lemmas.MaxPrinciple

namespace JaxleyVerif.Props.C02
open JaxleyVerif JaxleyVerif.Cable

variable {ι : Type} [Fintype ι] [DecidableEq ι]

/-- total charge: the capacitive charge change equals injected minus membrane charge (axial terms cancel) -/
theorem charge_balance {w : ι → ι → ℝ} {σ u x : ι → ℝ} (hsym : ∀ i j, w i j = w j i)
    (hrow : ∀ i, row w σ x i = σ i * u i) : ∑ i, σ i * (x i - u i) = 0 :=
  Cable.charge_balance hsym hrow

/-- backward Euler never overshoots: the new voltages lie between the extremes of the effective sources
`u_i` (a convex combination of the old voltage and the reversal potential), for EVERY positive time step -/
theorem no_overshoot [Nonempty ι] {w : ι → ι → ℝ} {σ u x : ι → ℝ} (h : Admissible w σ) {lo hi : ℝ}
    (hrow : ∀ i, row w σ x i = σ i * u i) (hlo : ∀ i, 0 < σ i → lo ≤ u i) (hhi : ∀ i, 0 < σ i → u i ≤ hi) :
    ∀ i, lo ≤ x i ∧ x i ≤ hi :=
  fun i => ⟨min_principle h hrow hlo i, max_principle h hrow hhi i⟩

/-- the effective source of a passive compartment lies between its old voltage and its reversal potential -/
theorem source_between {C g v E dt : ℝ} (hC : 0 < C) (hg : 0 ≤ g) (hdt : 0 < dt) :
    min v E ≤ (C / dt * v + g * E) / (C / dt + g) ∧ (C / dt * v + g * E) / (C / dt + g) ≤ max v E := by
  have hcd : 0 ≤ C / dt := (div_pos hC hdt).le
  have hpos : 0 < C / dt + g := add_pos_of_pos_of_nonneg (div_pos hC hdt) hg
  -- a weighted mean with weights `C/dt > 0`, `g ≥ 0`
  constructor
  · rw [le_div_iff₀ hpos, mul_add, mul_comm _ (C / dt), mul_comm _ g]
    exact add_le_add (mul_le_mul_of_nonneg_left (min_le_left v E) hcd)
      (mul_le_mul_of_nonneg_left (min_le_right v E) hg)
  · rw [div_le_iff₀ hpos, mul_add, mul_comm _ (C / dt), mul_comm _ g]
    exact add_le_add (mul_le_mul_of_nonneg_left (le_max_left v E) hcd)
      (mul_le_mul_of_nonneg_left (le_max_right v E) hg)

/-- a spatially uniform, unstimulated passive model at its reversal potential stays uniform -/
theorem uniform_stays_uniform [Nonempty ι] {w : ι → ι → ℝ} {σ x : ι → ℝ} (h : Admissible w σ) (c : ℝ)
    (hrow : ∀ i, row w σ x i = σ i * c) : ∀ i, x i = c := by
  intro i
  have := no_overshoot h (lo := c) (hi := c) hrow (fun _ _ => le_refl _) (fun _ _ => le_refl _) i
  exact le_antisymm this.2 this.1

/-- reciprocity: the change at `j` caused by a current at `i` equals the change at `i` caused by the same
current at `j` -/
theorem reciprocity {w : ι → ι → ℝ} {σ : ι → ℝ} (hsym : ∀ i j, w i j = w j i) {x y : ι → ℝ} {i j : ι} {I : ℝ}
    (hI : I ≠ 0)
    (hx : ∀ k, row w σ x k = if k = i then I else 0) (hy : ∀ k, row w σ y k = if k = j then I else 0) :
    y i = x j := by
  have := Cable.reciprocity hsym (σ := σ) x y
  simp only [hx, hy, mul_ite, mul_zero, Finset.sum_ite_eq', Finset.mem_univ, if_true] at this
  exact mul_right_cancel₀ hI this

/-- non-vacuity: a two-compartment system is admissible -/
example : Admissible (ι := Fin 2) (fun i j => if i = j then (0:ℝ) else 1) (fun _ => 1) :=
  ⟨fun i j => by split <;> norm_num, fun _ => by norm_num, fun i h => by norm_num at h⟩

end JaxleyVerif.Props.C02
