/-
C08 — recordings and inputs land on the right row, compartment and time step.

Time axis: `integrateCore` returns the gather of the initial state and of the state after each step (`recs_order_and_time`, from
`Lemmas/Scan`), so sample `k` is consumed by step `k+1` only (`stim_timing`).  Rows: `record` keeps first-call order (`dedup_*`),
entry `r` of a `scatter_add` receives exactly the samples addressed to `r` (`scatterAdd_get`).  Clamps: both clamp loops are
`applyClamps` on one array; `getArr_step` says what array `k` is after a step, hence the last clamp of a state holds
(`step_clamp_holds`; for `v` the write follows the solve, for other states the mechanisms).
The conversion of a stimulus of `I` nA into exactly `I·dt` of charge is `C01.stim_conversion` + `C02.charge_balance`.
-/
import Mathlib.Data.List.Basic
import JaxleyVerif.Lemmas.Scan
import JaxleyVerif.Lemmas.Fold
import JaxleyVerif.Lemmas.Lists
import JaxleyVerif.Model.Step
import JaxleyVerif.Lemmas.OpsWF

namespace JaxleyVerif.Props.C08
open JaxleyVerif.Model JaxleyVerif.Model.Step

variable {α σ ι ο : Type}

/-- `gather s` = `[s[state][index] for (index, state) in recs]` -/
theorem recs_order_and_time (step : σ → ι → σ) (gather : σ → List ο) (zero : ι) (s : σ) (xs : List ι) (k : Nat)
    (hk : k < xs.length) :
    (integrateCore step gather zero s xs none).1[0]? = some (gather s) ∧
    (integrateCore step gather zero s xs none).1[k + 1]? = some (gather ((xs.take (k + 1)).foldl step s)) := by
  rw [integrateCore_none, List.getElem?_map, List.getElem?_map, List.getElem?_scanl, List.getElem?_scanl,
    if_pos (Nat.zero_le _), if_pos (Nat.succ_le_of_lt hk)]
  exact ⟨rfl, rfl⟩

/-- `record`: duplicates are dropped, the first occurrence keeps its place, so rows are in call order -/
theorem dedup_mem (x : Nat × String) : ∀ l : List (Nat × String), x ∈ Ops.dedup l ↔ x ∈ l :=
  fun _ => Ops.mem_dedup

theorem dedup_nodup : ∀ l : List (Nat × String), (Ops.dedup l).Nodup
  | [] => by simp [Ops.dedup]
  | y :: ys => by
    simp only [Ops.dedup, List.nodup_cons, List.mem_filter]
    exact ⟨fun h => by simpa using h.2, (dedup_nodup ys).filter _⟩

/-- existing recordings keep their rows when new ones are appended -/
theorem dedup_prefix (l r : List (Nat × String)) (h : l.Nodup) : (Ops.dedup (l ++ r)).take l.length = l := by
  induction l with
  | nil => rfl
  | cons x xs ih =>
    have hx := List.nodup_cons.mp h
    have hfx : xs.filter (· != x) = xs :=
      List.filter_eq_self.mpr (fun a ha => bne_iff_ne.mpr fun h' => hx.1 (h' ▸ ha))
    -- the dedup of the tail starts with `xs` (ih), none of which equals `x`: filtering `x` out keeps them in place
    have hsplit : Ops.dedup (xs ++ r) = xs ++ (Ops.dedup (xs ++ r)).drop xs.length := by
      conv_lhs => rw [← List.take_append_drop xs.length (Ops.dedup (xs ++ r)), ih hx.2]
    rw [List.cons_append, Ops.dedup, List.length_cons, List.take_succ_cons, hsplit, List.filter_append, hfx,
      List.take_left' rfl]

/-- **timing**: sample `k` is the one consumed by step `k+1` -/
theorem stim_timing (step : σ → ι → σ) (s : σ) (xs : List ι) (k : Nat) (hk : k < xs.length) :
    (xs.take (k + 1)).foldl step s = step ((xs.take k).foldl step s) xs[k] := by
  rw [List.take_add_one, List.foldl_append, List.getElem?_eq_getElem hk]
  rfl

theorem later_samples_do_not_matter (step : σ → ι → σ) (s : σ) (xs ys : List ι) (k : Nat)
    (h : xs.take (k + 1) = ys.take (k + 1)) : (xs.take (k + 1)).foldl step s = (ys.take (k + 1)).foldl step s := by rw [h]

/-- **several stimuli on one compartment add** -/
theorem stims_add (n i : Nat) (a b : Int) (hi : i < n) :
    scatterAdd n [i, i] [a, b] = scatterAdd n [i] [a + b] := by
  simp only [scatterAdd, List.zip_cons_cons, List.zip_nil_right, List.foldl_cons, List.foldl_nil, List.length_replicate, hi,
    if_true, List.length_set]
  rw [List.set_set]
  congr 1
  simp [List.getD_eq_getElem?_getD, hi]

/-- `[r]?`, not `getD`: see `Lemmas/Fold.lean` -/
theorem scatterAdd_get [Add α] [OfNat α 0] (n r : Nat) (hr : r < n) (inds : List Nat) (vals : List α) :
    (scatterAdd n inds vals)[r]? =
      (((inds.zip vals).filter (fun iv => iv.1 == r)).map (·.2)).foldl (fun a x => a.map (· + x)) (some 0) := by
  unfold scatterAdd
  rw [List.foldl_map, List.foldl_filter]
  refine foldl_view (·[r]?) (by rw [List.getElem?_replicate, if_pos hr]) (fun acc iv => ?_)
  by_cases h : iv.1 = r
  · subst h
    rw [if_pos (beq_self_eq_true _)]
    -- `acc` is arbitrary (no length invariant): beyond its end the write is dropped and both sides are `none`
    by_cases hl : iv.1 < acc.length
    · rw [if_pos hl, List.getElem?_set_self hl, List.getD_eq_getElem?_getD, List.getElem?_eq_getElem hl]
      rfl
    · rw [if_neg hl, List.getElem?_eq_none (Nat.le_of_not_lt hl)]
      rfl
  · rw [if_neg (fun e => h (eq_of_beq e))]
    split
    · exact List.getElem?_set_ne h
    · rfl

theorem scatterAdd_other (n i j : Nat) (a : Int) (hj : j ≠ i) (hjn : j < n) : (scatterAdd n [i] [a]).getD j 0 = 0 := by
  rw [List.getD_eq_getElem?_getD, scatterAdd_get n j hjn, List.zip_cons_cons, List.filter_cons_of_neg (by simpa using hj.symm)]
  rfl

theorem setAt_eq (a : List α) (inds : List Nat) (vals : List α) :
    setAt a inds vals = (inds.zip vals).foldl (fun acc iv => acc.set iv.1 iv.2) a := by
  unfold setAt
  simp only [ite_lt_set]

theorem setAt_length (a : List α) (inds : List Nat) (vals : List α) : (setAt a inds vals).length = a.length := by
  rw [setAt_eq]
  exact foldl_view_fixed List.length a (fun _ _ _ => List.length_set)

theorem setAt_cons (a : List α) (i : Nat) (is : List Nat) (v : α) (vs : List α) :
    setAt a (i :: is) (v :: vs) = setAt (if i < a.length then a.set i v else a) is vs := rfl

theorem setAt_get_other (r : Nat) (inds : List Nat) (vals : List α) (a : List α) (h : r ∉ inds) :
    (setAt a inds vals)[r]? = a[r]? := by
  rw [setAt_eq]
  exact foldl_view_fixed (·[r]?) a
    (fun acc iv hiv => List.getElem?_set_ne (fun e : iv.1 = r => h (e ▸ (List.of_mem_zip hiv).1)))

/-- `Nodup`: with duplicate indices in one `.at[inds].set(vals)` the model's `setAt` lets the later write win; the theorems
do not rely on that -/
theorem setAt_get (a : List α) : ∀ (inds : List Nat) (vals : List α) (j : Nat) (hj : j < inds.length) (hv : inds.length = vals.length),
    inds.Nodup → inds[j] < a.length → (setAt a inds vals)[inds[j]]? = some (vals[j]'(hv ▸ hj)):= by
  intro inds
  induction inds generalizing a with
  | nil => intro _ j hj; exact absurd hj (Nat.not_lt_zero j)
  | cons i is ih =>
    intro vals j hj hv hnd hlt
    obtain ⟨hi, hnd'⟩ := List.nodup_cons.mp hnd
    cases vals with
    | nil => cases hv
    | cons v vs =>
      rw [setAt_cons]
      cases j with
      | zero =>
        -- the first write sets the entry, the later ones go to other indices
        have hlt : i < a.length := hlt
        show (setAt _ is vs)[i]? = some v
        rw [setAt_get_other i is vs _ hi, if_pos hlt, List.getElem?_set_self hlt]
      | succ j =>
        exact ih _ vs j (Nat.lt_of_succ_lt_succ hj) (Nat.succ.inj hv) hnd'
          (by rw [apply_ite List.length, List.length_set, ite_self]; exact hlt)

theorem setArr_key (k' : String) (a : List α) (p : String × List α) : (if p.1 == k' then (k', a) else p).1 = p.1 := by
  split
  · rename_i h
    exact (eq_of_beq h).symm
  · rfl

theorem getArr_setArr_eq (u : State α) (k k' : String) (a : List α) :
    getArr (setArr u k' a) k = if k = k' then a else getArr u k := by
  unfold getArr setArr
  split
  · -- `k'` is there: its pair is replaced in place, the keys stay as they are
    rename_i h
    have hkeys : ((fun p : String × List α => p.1 == k) ∘ fun p => if p.1 == k' then (k', a) else p) = fun p => p.1 == k :=
      funext fun p => congrArg (· == k) (setArr_key k' a p)
    rw [List.find?_map, hkeys]
    cases hf : u.find? (fun p => p.1 == k) with
    | none =>
      have hk : ¬ k = k' := fun e => by
        subst e
        obtain ⟨p, hp, hpk⟩ := List.any_eq_true.mp h
        exact List.find?_eq_none.mp hf p hp hpk
      rw [if_neg hk]
      rfl
    | some p =>
      have hp : p.1 = k := eq_of_beq (List.find?_some (p := fun p : String × List α => p.1 == k) hf)
      rw [Option.map_some, Option.map_some, Option.getD_some, Option.map_some, Option.getD_some, hp]
      by_cases hk : k = k'
      · rw [if_pos hk, if_pos (beq_iff_eq.mpr hk)]
      · rw [if_neg hk, if_neg (fun e => hk (eq_of_beq e))]
  · -- `k'` is new: its pair is appended
    rename_i h
    rw [List.find?_append]
    by_cases hk : k = k'
    · subst hk
      have : u.find? (fun p => p.1 == k) = none :=
        List.find?_eq_none.mpr (fun p hp hpk => h (List.any_eq_true.mpr ⟨p, hp, hpk⟩))
      rw [this, if_pos rfl, List.find?_cons_of_pos (p := fun p : String × List α => p.1 == k) (beq_self_eq_true k)]
      rfl
    · rw [if_neg hk, List.find?_cons_of_neg (p := fun p : String × List α => p.1 == k) (fun e => hk (eq_of_beq e).symm),
        List.find?_nil, Option.or_none]

theorem getArr_setArr (u : State α) (k : String) (a : List α) : getArr (setArr u k a) k = a :=
  (getArr_setArr_eq u k k a).trans (if_pos rfl)

/-- the clamps among `exts` that `hit` selects, applied in order to one array -/
def applyClamps (hit : Ext α → Bool) (a : List α) (exts : List (Ext α)) : List α :=
  exts.foldl (fun a e => if hit e then setAt a e.inds e.vals else a) a

theorem applyClamps_length (hit : Ext α → Bool) (a : List α) (exts : List (Ext α)) :
    (applyClamps hit a exts).length = a.length :=
  foldl_view_fixed List.length a (fun a e _ => by split; exact setAt_length a e.inds e.vals; rfl)

theorem applyClamps_of_no_hit (hit : Ext α → Bool) (a : List α) (exts : List (Ext α)) (h : ∀ e ∈ exts, hit e = false) :
    applyClamps hit a exts = a :=
  foldl_view_fixed id a (fun a e he => by rw [h e he]; rfl)

theorem applyClamps_last (hit : Ext α → Bool) (a : List α) (pre post : List (Ext α)) (e : Ext α) (he : hit e = true)
    (hpost : ∀ e' ∈ post, hit e' = false) :
    applyClamps hit a (pre ++ e :: post) = setAt (applyClamps hit a pre) e.inds e.vals := by
  unfold applyClamps
  rw [List.foldl_append, List.foldl_cons, if_pos he]
  exact applyClamps_of_no_hit hit _ post hpost

/-- one clamp seen from array `k`: it writes `k` iff its key is `k` and the loop does not skip it (the same in
`getArr_clampStates`) -/
theorem getArr_clampV (u : State α) (exts : List (Ext α)) (k : String) :
    getArr (clampV u exts) k = applyClamps (fun e => e.key == "v" && k == "v") (getArr u k) exts := by
  refine foldl_view (getArr · k) rfl (fun acc e => ?_)
  by_cases he : (e.key == "v") = true
  · by_cases hk : k = "v"
    · subst hk
      simp only [he, if_true, getArr_setArr, beq_self_eq_true, Bool.and_self]
    · simp only [he, if_true, getArr_setArr_eq, hk, if_false, Bool.true_and, beq_iff_eq]
  · simp only [he, if_false, Bool.false_and, Bool.false_eq_true]

theorem getArr_clampStates (u : State α) (exts : List (Ext α)) (k : String) :
    getArr (clampStates u exts) k = applyClamps (fun e => e.key == k && !(k == "i" || k == "v")) (getArr u k) exts := by
  refine foldl_view (getArr · k) rfl (fun acc e => ?_)
  by_cases hk : k = e.key
  · subst hk
    by_cases he : (e.key == "i" || e.key == "v") = true
    · simp only [he, if_true, Bool.not_true, Bool.and_false, Bool.false_eq_true, if_false]
    · simp only [he, Bool.false_eq_true, if_false, getArr_setArr, beq_self_eq_true, Bool.true_and, Bool.not_false,
        if_true]
  · have hk' : (e.key == k) = false := beq_false_of_ne (fun h => hk h.symm)
    simp only [hk', Bool.false_and, Bool.false_eq_true, if_false]
    split
    · rfl
    · exact (getArr_setArr_eq acc k e.key _).trans (if_neg hk)

theorem getArr_step (mech : State α → List α → State α) (solve : State α → State α → List α → List α)
    (iext : List (Ext α) → List α) (u : State α) (exts : List (Ext α)) (k : String) (hk : k ≠ "i") :
    getArr (step mech solve iext u exts) k = applyClamps (fun e => e.key == k)
      (if k = "v" then solve u (clampStates (mech u (iext exts)) exts) (iext exts) else getArr (mech u (iext exts)) k)
      exts := by
  unfold step
  rw [getArr_clampV, getArr_setArr_eq]
  by_cases hv : k = "v"
  · subst hv
    simp only [beq_self_eq_true, Bool.and_true, if_true]
  · have hi : (k == "i") = false := beq_false_of_ne hk
    have hv' : (k == "v") = false := beq_false_of_ne hv
    rw [if_neg hv, if_neg hv, applyClamps_of_no_hit _ _ _ (fun e _ => by rw [hv', Bool.and_false]), getArr_clampStates]
    simp only [hi, hv', Bool.or_false, Bool.not_false, Bool.and_true]

theorem step_clamp_holds (mech : State α → List α → State α) (solve : State α → State α → List α → List α)
    (iext : List (Ext α) → List α) (u : State α) (k : String) (hk : k ≠ "i") (pre post : List (Ext α))
    (inds : List Nat) (vals : List α) (j : Nat) (hj : j < inds.length) (hv : inds.length = vals.length) (hnd : inds.Nodup)
    (hpost : ∀ e ∈ post, e.key ≠ k)
    (hlt : inds[j] < (getArr (step mech solve iext u (pre ++ ⟨k, inds, vals⟩ :: post)) k).length) :
    (getArr (step mech solve iext u (pre ++ ⟨k, inds, vals⟩ :: post)) k)[inds[j]]? = some (vals[j]'(hv ▸ hj)) := by
  rw [getArr_step _ _ _ _ _ k hk, applyClamps_last _ _ pre post ⟨k, inds, vals⟩ (beq_self_eq_true k)
    (fun e he => beq_false_of_ne (hpost e he))] at hlt ⊢
  rw [setAt_length] at hlt
  exact setAt_get _ inds vals j hj hv hnd hlt

/-- **a voltage clamp holds**: after `step`, the clamped compartments hold their clamp samples (the write follows the solve) -/
theorem clamp_v_holds (mech : State α → List α → State α) (solve : State α → State α → List α → List α)
    (iext : List (Ext α) → List α) (u : State α) (inds : List Nat) (vals : List α) (j : Nat)
    (hj : j < inds.length) (hv : inds.length = vals.length) (hnd : inds.Nodup)
    (hlt : inds[j] < (solve u (clampStates (mech u (iext [⟨"v", inds, vals⟩])) [⟨"v", inds, vals⟩]) (iext [⟨"v", inds, vals⟩])).length) :
    (getArr (step mech solve iext u [⟨"v", inds, vals⟩]) "v")[inds[j]]? = some (vals[j]'(hv ▸ hj)) := by
  rw [getArr_step _ _ _ _ _ "v" (by decide)]
  exact setAt_get _ inds vals j hj hv hnd hlt

/-- `t_max`: a stimulus shorter than `t_max_steps` is padded with zeros, longer inputs are truncated -/
theorem tmax_pad_truncate (zero : ι) (steps : Nat) (xs : List ι) :
    (fitToTmax zero steps xs).length = steps ∧
    (∀ k, k < min steps xs.length → (fitToTmax zero steps xs)[k]? = xs[k]?) ∧
    (∀ k, xs.length ≤ k → k < steps → (fitToTmax zero steps xs)[k]? = some zero) := by
  unfold fitToTmax
  by_cases h : steps > xs.length
  · rw [if_pos h]
    refine ⟨?_, fun k hk => ?_, fun k h1 h2 => ?_⟩
    · rw [List.length_append, List.length_replicate, Nat.add_sub_cancel' (Nat.le_of_lt h)]
    · exact List.getElem?_append_left (Nat.lt_min.mp hk).2
    · rw [List.getElem?_append_right h1, List.getElem?_replicate, if_pos (Nat.sub_lt_sub_right h1 h2)]
  · rw [if_neg h]
    refine ⟨?_, fun k hk => ?_, fun k h1 h2 => absurd (Nat.lt_of_le_of_lt h1 h2) h⟩
    · rw [List.length_take, Nat.min_eq_left (Nat.le_of_not_lt h)]
    · exact List.getElem?_take_of_lt (Nat.lt_min.mp hk).1

theorem fitToTmax_get (zero : ι) (steps : Nat) (xs : List ι) (k : Nat) (hk : k < steps) :
    (fitToTmax zero steps xs)[k]? = some (xs[k]?.getD zero) := by
  obtain ⟨-, h2, h3⟩ := tmax_pad_truncate zero steps xs
  by_cases h : k < xs.length
  · rw [h2 k (Nat.lt_min.mpr ⟨hk, h⟩), List.getElem?_eq_getElem h]
    rfl
  · rw [h3 k (Nat.le_of_not_lt h) hk, List.getElem?_eq_none (Nat.le_of_not_lt h)]
    rfl

theorem step_current_shape (ws we n k : Nat) (amp off : α) (hk : k < n) :
    (stepCurrent ws we n amp off).length = n ∧
    (stepCurrent ws we n amp off)[k]? = some (if ws ≤ k ∧ k < we then amp else off) := by
  unfold stepCurrent
  rw [List.length_map, List.length_range, List.getElem?_map, List.getElem?_range hk]
  exact ⟨rfl, rfl⟩

end JaxleyVerif.Props.C08

namespace JaxleyVerif.Props.Sim
open JaxleyVerif.Model JaxleyVerif.Model.Step

/-! The same kind of fact about `Model/Step.lean`, in the namespace of the whole-simulation files (`C08_Sim`, `C09_Sim`, `C12_Sim`). -/

variable {α : Type}

theorem getArr_setArr_ne (u : State α) (k k' : String) (a : List α) (h : k ≠ k') :
    getArr (setArr u k' a) k = getArr u k :=
  (C08.getArr_setArr_eq u k k' a).trans (if_neg h)

theorem clampV_v_length : ∀ (xs : List (Ext α)) (u : State α),
    (getArr (clampV u xs) "v").length = (getArr u "v").length := by
  intro xs u
  rw [C08.getArr_clampV, C08.applyClamps_length]

theorem clampV_no_v : ∀ (ys : List (Ext α)) (u : State α), (∀ e ∈ ys, e.key ≠ "v") → clampV u ys = u :=
  fun _ u h => foldl_view_fixed id u (fun _ e he => if_neg (fun hv => h e he (eq_of_beq hv)))

theorem clampStates_only_i : ∀ (exts : List (Ext α)) (u : State α), (∀ e ∈ exts, e.key = "i") →
    clampStates u exts = u :=
  fun _ u h => foldl_view_fixed id u (fun _ e he => if_pos (by rw [h e he]; rfl))

theorem step_stim_only (mech : State α → List α → State α) (solve : State α → State α → List α → List α)
    (iext : List (Ext α) → List α) (u : State α) (exts : List (Ext α)) (h : ∀ e ∈ exts, e.key = "i") :
    Step.step mech solve iext u exts =
      setArr (mech u (iext exts)) "v" (solve u (mech u (iext exts)) (iext exts)) := by
  unfold Step.step
  dsimp only
  rw [clampStates_only_i exts _ h,
    clampV_no_v exts _ (fun e he hv => absurd ((h e he).symm.trans hv) (by decide))]

theorem clampStates_length (k : String) : ∀ (xs : List (Ext α)) (u : State α),
    (getArr (clampStates u xs) k).length = (getArr u k).length := by
  intro xs u
  rw [C08.getArr_clampStates, C08.applyClamps_length]

theorem getArr_foldl_setArr (F : String → List α) (k : String) (keys : List String) (u : State α) :
    getArr (keys.foldl (fun u' k' => setArr u' k' (F k')) u) k = if k ∈ keys then F k else getArr u k := by
  induction keys generalizing u with
  | nil => rfl
  | cons k0 t ih =>
    rw [List.foldl_cons, ih, C08.getArr_setArr_eq]
    by_cases ht : k ∈ t
    · rw [if_pos ht, if_pos (List.mem_cons_of_mem _ ht)]
    · rw [if_neg ht]
      by_cases hk : k = k0
      · rw [if_pos hk, if_pos (hk ▸ List.mem_cons_self), hk]
      · rw [if_neg hk, if_neg (fun h => (List.mem_cons.mp h).elim hk ht)]

end JaxleyVerif.Props.Sim
