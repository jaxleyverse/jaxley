/-
C17 — parameter transforms are bounded, monotone bijections.

Scalar transforms (`Gen.*Transform.*`) are re-translated from jaxley/optimize/transforms.py on every run,
including the constructor field assignments (`init_width`, `init_lower`, …).  Combinators are the hand model
`Model.Transforms` (tied to the code by the correspondence harness).  Bijectivity holds only where `save_exp` does not clip: the round
trips and strict monotonicity carry that region as a hypothesis (`*_roundtrip_partial`, `*_roundtrip_inv_partial`, `*_strict_mono`),
and beyond it the round trips fail (`*_roundtrip_counterexample`, known finding F11).  For the two directions that have a
counterexample the round trip is computed for every input, and is that clip (`sigmoid_roundtrip`, `softplus_roundtrip_inv`).
-/
import JaxleyVerif.Lemmas.Gate
import JaxleyVerif.Model.Transforms

namespace JaxleyVerif.Props.C17
open JaxleyVerif JaxleyVerif.Gen JaxleyVerif.Model

/-- the value computed by `SigmoidTransform(lower, upper).forward` -/
noncomputable def sigF (lower upper x : ℝ) : ℝ :=
  SigmoidTransform.forward (SigmoidTransform.init_lower lower upper) (SigmoidTransform.init_width lower upper) x
noncomputable def sigI (lower upper y : ℝ) : ℝ :=
  SigmoidTransform.inverse (SigmoidTransform.init_lower lower upper) (SigmoidTransform.init_width lower upper) y

theorem sigF_eq (lower upper x : ℝ) : sigF lower upper x = lower + (upper - lower) * (1 / (1 + save_exp (-x))) := by
  refine sub_eq_zero.mp ?_
  simp only [sigF, SigmoidTransform.forward, SigmoidTransform.init_lower, SigmoidTransform.init_width, lit_one]
  ring

theorem sigI_eq (lower upper y : ℝ) :
    sigI lower upper y = -Real.log (1 / ((y - lower) / (upper - lower)) - 1) := by
  refine sub_eq_zero.mp ?_
  simp only [sigI, SigmoidTransform.inverse, SigmoidTransform.init_lower, SigmoidTransform.init_width, lit_one,
    transc_log_real]
  ring_nf (mode := .raw)   -- not `ring`: the difference sits inside `Real.log`, an atom for `ring`

theorem sigI_affine {lower upper : ℝ} (h : lower < upper) (s : ℝ) :
    sigI lower upper (lower + (upper - lower) * s) = -Real.log (1 / s - 1) := by
  rw [sigI_eq, add_sub_cancel_left, mul_div_cancel_left₀ _ (sub_pos.mpr h).ne']

theorem sigmoid_bounds {lower upper : ℝ} (h : lower < upper) (x : ℝ) :
    lower < sigF lower upper x ∧ sigF lower upper x < upper := by
  rw [sigF_eq]
  have hs := ratio_mem one_pos (save_exp_pos (-x))
  have hw := sub_pos.mpr h
  exact ⟨lt_add_of_pos_right lower (mul_pos hw hs.1), by linear_combination mul_lt_mul_of_pos_left hs.2 hw⟩

theorem sigmoid_mono {lower upper : ℝ} (h : lower < upper) {x y : ℝ} (hxy : x ≤ y) :
    sigF lower upper x ≤ sigF lower upper y := by
  rw [sigF_eq, sigF_eq]
  have hw := (sub_pos.mpr h).le
  have hy := save_exp_pos (-y)
  have hm : save_exp (-y) ≤ save_exp (-x) := save_exp_mono (neg_le_neg hxy)
  gcongr

/-- `inverse ∘ forward` is the clip of `save_exp` read on the input: the identity on `x ≥ −20`, the constant `−20` below -/
theorem sigmoid_roundtrip {lower upper : ℝ} (h : lower < upper) (x : ℝ) :
    sigI lower upper (sigF lower upper x) = max x (-20) := by
  rw [sigF_eq, sigI_affine h, save_exp_def, one_div_one_div, add_sub_cancel_left, Real.log_exp, ← max_neg_neg, neg_neg]

theorem sigmoid_roundtrip_partial {lower upper : ℝ} (h : lower < upper) {x : ℝ} (hx : -20 ≤ x) :
    sigI lower upper (sigF lower upper x) = x :=
  (sigmoid_roundtrip h x).trans (max_eq_left hx)

/-- monotone, and injective on `x ≥ −20` because the inverse undoes it there -/
theorem sigmoid_strict_mono {lower upper : ℝ} (h : lower < upper) {x y : ℝ} (hxy : x < y) (hx20 : -20 ≤ x) :
    sigF lower upper x < sigF lower upper y :=
  (sigmoid_mono h hxy.le).lt_of_ne fun e => hxy.ne (by
    rw [← sigmoid_roundtrip_partial h hx20, e, sigmoid_roundtrip_partial h (hx20.trans hxy.le)])

/-- `forward (inverse y) = y` for `y` strictly inside the bounds and not closer to `lower` than the clip allows -/
theorem sigmoid_roundtrip_inv_partial {lower upper y : ℝ} (h : lower < upper)
    (hy1 : lower + (upper - lower) / (1 + Real.exp 20) ≤ y) (hy2 : y < upper) :
    sigF lower upper (sigI lower upper y) = y := by
  have hw : 0 < upper - lower := sub_pos.mpr h
  have hE : 0 < 1 + Real.exp 20 := by positivity
  -- in terms of `t = (y - lower)/(upper - lower)` the hypotheses read `1/(1 + e²⁰) ≤ t < 1`
  set t := (y - lower) / (upper - lower) with ht
  have htlow : 1 / (1 + Real.exp 20) ≤ t := by
    rw [ht, div_le_div_iff₀ hE hw, one_mul, ← div_le_iff₀ hE]; exact le_sub_iff_add_le'.mpr hy1
  have ht0 : 0 < t := (one_div_pos.mpr hE).trans_le htlow
  have ht1 : t < 1 := (div_lt_one hw).mpr (sub_lt_sub_right hy2 lower)
  have hpos : 0 < 1 / t - 1 := sub_pos.mpr (one_lt_one_div ht0 ht1)
  have hle : Real.log (1 / t - 1) ≤ 20 := by
    rw [Real.log_le_iff_le_exp hpos, sub_le_iff_le_add']
    exact (one_div_le hE ht0).mp htlow
  -- exp(log(1/t − 1)) = 1/t − 1, 1/(1 + (1/t − 1)) = t, lower + (upper − lower)·t = y
  rw [sigI_eq, sigF_eq, neg_neg, save_exp_eq hle, Real.exp_log hpos, add_sub_cancel, one_div_one_div, ht,
    mul_div_cancel₀ _ hw.ne', add_sub_cancel]

/-- beyond the clip the round trip saturates (known finding F11): `inverse (forward (−30)) = −20` -/
theorem sigmoid_roundtrip_counterexample : sigI 0 1 (sigF 0 1 (-30)) = -20 :=
  (sigmoid_roundtrip zero_lt_one _).trans (max_eq_right (by norm_num))

noncomputable def spF (lower x : ℝ) : ℝ := SoftplusTransform.forward (SoftplusTransform.init_lower lower) x
noncomputable def spI (lower y : ℝ) : ℝ := SoftplusTransform.inverse (SoftplusTransform.init_lower lower) y

theorem spF_eq (lower x : ℝ) : spF lower x = Real.log (1 + save_exp x) + lower := by
  refine sub_eq_zero.mp ?_
  simp only [spF, SoftplusTransform.forward, SoftplusTransform.init_lower, transc_log1p_real]
  ring

theorem spI_eq (lower y : ℝ) : spI lower y = Real.log (save_exp (y - lower) - 1) := by
  refine sub_eq_zero.mp ?_
  simp only [spI, SoftplusTransform.inverse, SoftplusTransform.init_lower, transc_log_real, lit_one]
  ring_nf (mode := .raw)

theorem softplus_bounds (lower x : ℝ) : lower < spF lower x :=
  lt_add_of_pos_left lower (Real.log_pos (lt_add_of_pos_right 1 (save_exp_pos x)))

theorem softplus_mono (lower : ℝ) {x y : ℝ} (hxy : x ≤ y) : spF lower x ≤ spF lower y := by
  rw [spF_eq, spF_eq]
  have hx := save_exp_pos x
  have hm := save_exp_mono hxy
  gcongr

theorem softplus_strict_mono (lower : ℝ) {x y : ℝ} (hxy : x < y) (hy : y ≤ 20) : spF lower x < spF lower y := by
  rw [spF_eq, spF_eq]
  have hx := save_exp_pos x
  have hm := save_exp_strictMono hxy hy
  gcongr

/-- `inverse (forward x) = x` when neither exponential clips -/
theorem softplus_roundtrip_partial (lower : ℝ) {x : ℝ} (hx : Real.log (1 + Real.exp x) ≤ 20) :
    spI lower (spF lower x) = x := by
  have hE : 0 < 1 + Real.exp x := add_pos one_pos (Real.exp_pos x)
  have hx20 : x ≤ 20 := ((Real.le_log_iff_exp_le hE).mpr (le_add_of_nonneg_left zero_le_one)).trans hx
  rw [spF_eq, spI_eq, save_exp_eq hx20, add_sub_cancel_right, save_exp_eq hx, Real.exp_log hE,
    add_sub_cancel_left, Real.log_exp]

/-- `forward ∘ inverse` above `lower` is the clip read on the distance to `lower`: the identity up to `lower + 20`, constant beyond -/
theorem softplus_roundtrip_inv {lower y : ℝ} (h : lower < y) :
    spF lower (spI lower y) = min (y - lower) 20 + lower := by
  have hpos : 0 < Real.exp (min (y - lower) 20) - 1 :=
    sub_pos.mpr (Real.one_lt_exp_iff.mpr (lt_min (sub_pos.mpr h) (by norm_num)))
  -- the outer `save_exp` does not clip: its argument is `log (e^m − 1) ≤ m ≤ 20` for `m = min (y − lower) 20`
  rw [spI_eq, save_exp_def, spF_eq, save_exp_eq ((Real.log_le_iff_le_exp hpos).mpr
    ((sub_le_self _ zero_le_one).trans (Real.exp_le_exp.mpr (min_le_right _ _)))), Real.exp_log hpos, add_sub_cancel,
    Real.log_exp]

theorem softplus_roundtrip_inv_partial {lower y : ℝ} (h1 : lower < y) (h2 : y - lower ≤ 20) :
    spF lower (spI lower y) = y := by
  rw [softplus_roundtrip_inv h1, min_eq_left h2, sub_add_cancel]

/-- beyond the clip: `forward (inverse 50) = 20 ≠ 50` for `SoftplusTransform(0)` (known finding F11) -/
theorem softplus_roundtrip_counterexample : spF 0 (spI 0 50) = 20 := by
  rw [softplus_roundtrip_inv (by norm_num), min_eq_right (by norm_num), add_zero]

/-! ## Negative softplus maps into `(−∞, upper)` (finding N5) -/

noncomputable def nspF (upper x : ℝ) : ℝ := NegSoftplusTransform.forward (NegSoftplusTransform.init_lower upper) x
noncomputable def nspI (upper y : ℝ) : ℝ := NegSoftplusTransform.inverse (NegSoftplusTransform.init_lower upper) y

theorem nspF_eq (upper x : ℝ) : nspF upper x = -spF (-upper) (-x) := rfl

theorem nspI_eq (upper y : ℝ) : nspI upper y = -spI (-upper) (-y) := rfl

theorem negsoftplus_bounds (upper x : ℝ) : nspF upper x < upper :=
  neg_lt.mp (softplus_bounds (-upper) (-x))

theorem negsoftplus_mono (upper : ℝ) {x y : ℝ} (hxy : x ≤ y) : nspF upper x ≤ nspF upper y :=
  neg_le_neg (softplus_mono (-upper) (neg_le_neg hxy))

theorem negsoftplus_roundtrip_partial (upper : ℝ) {x : ℝ} (hx : Real.log (1 + Real.exp (-x)) ≤ 20) :
    nspI upper (nspF upper x) = x := by
  rw [nspF_eq, nspI_eq, neg_neg, softplus_roundtrip_partial _ hx, neg_neg]

theorem negsoftplus_roundtrip_inv_partial {upper y : ℝ} (h1 : y < upper) (h2 : upper - y ≤ 20) :
    nspF upper (nspI upper y) = y := by
  rw [nspI_eq, nspF_eq, neg_neg, softplus_roundtrip_inv_partial (neg_lt_neg h1) (by rwa [neg_sub_neg]), neg_neg]

theorem affine_roundtrip {a b : ℝ} (ha : a ≠ 0) (x : ℝ) :
    AffineTransform.inverse (AffineTransform.init_a a b) (AffineTransform.init_b a b)
      (AffineTransform.forward (AffineTransform.init_a a b) (AffineTransform.init_b a b) x) = x := by
  unfold AffineTransform.inverse AffineTransform.forward AffineTransform.init_a AffineTransform.init_b
  field_simp; ring

theorem affine_roundtrip_inv {a b : ℝ} (ha : a ≠ 0) (y : ℝ) :
    AffineTransform.forward (AffineTransform.init_a a b) (AffineTransform.init_b a b)
      (AffineTransform.inverse (AffineTransform.init_a a b) (AffineTransform.init_b a b) y) = y := by
  unfold AffineTransform.inverse AffineTransform.forward AffineTransform.init_a AffineTransform.init_b
  field_simp; ring

theorem affine_mono {a b : ℝ} (ha : 0 < a) {x y : ℝ} (h : x ≤ y) :
    AffineTransform.forward a b x ≤ AffineTransform.forward a b y := by
  unfold AffineTransform.forward
  linear_combination a * h

theorem chainFwd_concat {α : Type} (ts : List (Tf α)) (t : Tf α) (x : α) :
    chainFwd (ts ++ [t]) x = t.fwd (chainFwd ts x) :=
  List.foldl_concat ..

theorem chainInv_concat {α : Type} (ts : List (Tf α)) (t : Tf α) (y : α) :
    chainInv (ts ++ [t]) y = chainInv ts (t.inv y) := by
  rw [chainInv, List.reverse_concat]; rfl

/-- `P t` is a set on which `t` round-trips; the hypothesis on `x` says that every member of the chain receives its input inside
its own set. -/
theorem chain_roundtrip {α : Type} (ts : List (Tf α)) (P : Tf α → α → Prop)
    (h : ∀ t ∈ ts, ∀ x, P t x → t.inv (t.fwd x) = x) :
    ∀ x, (∀ (pre : List (Tf α)) (t : Tf α) (post : List (Tf α)), ts = pre ++ t :: post → P t (chainFwd pre x)) →
      chainInv ts (chainFwd ts x) = x := by
  induction ts using List.reverseRecOn with
  | nil => intro x _; rfl
  | append_singleton ts t ih =>
    intro x hP
    rw [chainFwd_concat, chainInv_concat, h t List.mem_concat_self _ (hP ts t [] rfl)]
    exact ih (fun t' ht' => h t' (List.mem_append_left _ ht')) x
      (fun pre t' post e => hP pre t' (post ++ [t]) (by rw [e, List.append_assoc, List.cons_append]))

theorem masked_roundtrip {α : Type} (mask : List Bool) (t : Tf α) (xs : List α)
    (hlen : mask.length = xs.length) (h : ∀ x ∈ xs, t.inv (t.fwd x) = x) :
    maskedInv mask t (maskedFwd mask t xs) = xs := by
  have pointwise (m : Bool) (x : α) (hx : t.inv (t.fwd x) = x) :
      (if m then t.inv (if m then t.fwd x else x) else if m then t.fwd x else x) = x := by
    cases m
    · rfl
    · exact hx
  apply List.ext_getElem
  · simp only [maskedInv, maskedFwd, List.length_zipWith, hlen, min_self]
  · intro i _ h2
    simp only [maskedInv, maskedFwd, List.getElem_zipWith]
    exact pointwise _ _ (h _ (List.getElem_mem h2))

theorem masked_frame {α : Type} (mask : List Bool) (t : Tf α) (xs : List α) (i : Nat)
    (hi : i < (maskedFwd mask t xs).length) (hm : mask[i]'(by simp [maskedFwd] at hi; omega) = false) :
    (maskedFwd mask t xs)[i] = xs[i]'(by simp [maskedFwd] at hi; omega) := by
  simp [maskedFwd, hm]

/-- `ParamTransform` applies each transform to exactly its own entry -/
theorem paramtransform_pointwise {α : Type} (tfs : List (Tf α)) (ps : List α) (i : Nat)
    (hi : i < (paramFwd tfs ps).length) :
    (paramFwd tfs ps)[i] = (tfs[i]'(by simp [paramFwd] at hi; omega)).fwd (ps[i]'(by simp [paramFwd] at hi; omega)) := by
  simp [paramFwd]

theorem paramtransform_roundtrip {α : Type} (tfs : List (Tf α)) (ps : List α) (hlen : tfs.length = ps.length)
    (h : ∀ i (h1 : i < tfs.length) (h2 : i < ps.length), (tfs[i]).inv ((tfs[i]).fwd (ps[i])) = ps[i]) :
    paramInv tfs (paramFwd tfs ps) = ps := by
  apply List.ext_getElem
  · simp [paramInv, paramFwd, hlen]
  · intro i h1 h2
    simp only [paramInv, paramFwd, List.getElem_zipWith]
    exact h i (by simp [paramInv, paramFwd] at h1; omega) h2

example : (0:ℝ) < sigF 0 1 3 ∧ sigF 0 1 3 < 1 := sigmoid_bounds (by norm_num) 3
example : sigI (-2) 2 (sigF (-2) 2 0.5) = 0.5 := sigmoid_roundtrip_partial (by norm_num) (by norm_num)

end JaxleyVerif.Props.C17
