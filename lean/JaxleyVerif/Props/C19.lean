/-
C19 — any editing history leaves a consistent module that simulates its tables.

The implementation's mutable pandas/JAX state refines the pure state machine `Model.Ops` (checked after EVERY operation of random
histories by the correspondence harness through the abstraction function α).  Here the model's side: two invariants by induction
over the operation list — the index invariant `WF` (`wf_reachable`, for row labels that exist and edge labels below the number of
rows, `Op.Valid`) and `NoDangling` (`noDangling_reachable`, for histories that use one descriptor per channel name), one step of
both being `step_keeps`, the one walk over the operations — and what the deleting operations remove and leave.  That `integrate`
simulates the tables is the refinement itself (α compared after every operation) plus properties C08/C10, which show that the
arrays and recordings used by the simulation are functions of these tables.
-/
import JaxleyVerif.Lemmas.OpsNoDangling

namespace JaxleyVerif.Props.C19
open JaxleyVerif.Model.Ops

inductive Op where
  | insert (rows : List Nat) (c : ChanDesc)
  | deleteChannel (rows : List Nat) (c : ChanDesc)
  | setNode (rows : List Nat) (k : String) (v : Nat)
  | addToGroup (rows : List Nat) (name : String)
  | record (rows es : List Nat) (state : String)
  | deleteRecordings
  | externalInput (rows es : List Nat) (key : String) (data : List (List Nat))
  | deleteExternal (rows es : List Nat) (key : String)
  | makeTrainable (key : String) (groups : List (List Nat))
  | deleteTrainables
  | connect (pre post : List Nat) (s : SynDesc)

def apply (m : Mod) : Op → Except String Mod
  | .insert rows c => .ok (insert m rows c)
  | .deleteChannel rows c => deleteChannel m rows c
  | .setNode rows k v => setNode m rows k v
  | .addToGroup rows name => .ok (addToGroup m rows name)
  | .record rows es st => record m rows es st
  | .deleteRecordings => .ok (deleteRecordingsAll m)
  | .externalInput rows es key data => externalInput m rows es key data
  | .deleteExternal rows es key => .ok (deleteExternal m rows es key)
  | .makeTrainable key groups => .ok (makeTrainable m key groups)
  | .deleteTrainables => .ok (deleteTrainablesAll m)
  | .connect pre post s => .ok (connect m pre post s)

/-- one step of the state machine; a rejected operation leaves the state unchanged -/
def step (m : Mod) (o : Op) : Mod := match apply m o with | .ok m' => m' | .error _ => m

/-- the row labels an operation is called with exist (what a view guarantees).  For the EDGE labels of `record` /
`externalInput` this asks more than a view guarantees: they are stored under a name that may be, or become, a node state of the
module, and then `WF` wants them below `n` (see `Inv`) -/
def Op.Valid (n : Nat) : Op → Prop
  | .insert _ _ => True
  | .deleteChannel _ _ => True
  | .setNode _ _ _ => True
  | .addToGroup rows _ => ∀ r ∈ rows, r < n
  | .record rows es _ => (∀ r ∈ rows, r < n) ∧ (∀ e ∈ es, e < n)
  | .deleteRecordings => True
  | .externalInput rows es _ _ => (∀ r ∈ rows, r < n) ∧ (∀ e ∈ es, e < n)
  | .deleteExternal _ _ _ => True
  | .makeTrainable _ _ => True
  | .deleteTrainables => True
  | .connect pre post _ => (∀ r ∈ pre, r < n) ∧ (∀ r ∈ post, r < n)

/-- only `deleteChannel` has a side condition (`Model.Ops.delOkB`) -/
def Op.delOkB (m : Mod) : Op → Bool
  | .deleteChannel _ c => JaxleyVerif.Model.Ops.delOkB m c
  | _ => true

def Op.descs : Op → List ChanDesc
  | .insert _ c => [c]
  | .deleteChannel _ c => [c]
  | _ => []

/-- what the module `m'` after operation `o` keeps of `m`.  `CurInv` and the bound on the registry (which keeps it inside the
catalogue `D` of `noDangling_foldl`) need no hypothesis on the operation; `NoDangling` needs `CurInv` (a view accepts the current
names of its channels) and `delOkB` -/
structure Keeps (m : Mod) (o : Op) (m' : Mod) : Prop where
  n : m'.n = m.n
  inv : Inv m → o.Valid m.n → Inv m'
  curInv : CurInv m → CurInv m'
  chans : ∀ d ∈ m'.chans, d ∈ m.chans ∨ d ∈ o.descs
  noDangling : CurInv m → NoDangling m → o.delOkB m = true → NoDangling m'

theorem step_keeps (m : Mod) (o : Op) : Keeps m o (step m o) := by
  have same : Keeps m o m := ⟨rfl, fun h _ => h, id, fun _ => Or.inl, fun _ h _ => h⟩
  unfold step
  cases ha : apply m o with
  | error e => exact same
  | ok m' =>
    -- every accepted result is `{ m with … }` (`Lemmas/OpsFrame`), so a clause that reads none of the replaced fields is that of
    -- `same` by `rfl`: a case states the clauses about the tables its operation writes.  `inv` is stated every time (`Inv` is a
    -- structure, `Inv m` and `Inv m'` do not unfold), and there `{ h with … }` re-proves only the fields that were replaced
    cases o with
    | insert rows c =>
      cases ha
      have hcu : ∀ s ∈ m.currents, s ∈ (insert m rows c).currents := fun s hs => mem_ite_append.mpr (Or.inl hs)
      refine { same with
        inv := fun h _ => { h with colLen := foldl_writeCol_len h.colLen, flagLen := writeFlag_len h.flagLen }
        curInv := fun hc d hd => ?_
        chans := fun d hd => (mem_ite_append.mp hd).imp_right fun h => List.mem_singleton.mpr h.2
        noDangling := fun _ h _ => h.mono (fun d hd => mem_ite_append.mpr (Or.inl hd)) hcu (fun _ hx => hx) rfl rfl }
      rcases mem_ite_append.mp hd with hd | ⟨-, rfl⟩
      · exact hcu _ (hc d hd)
      · -- the new channel's own current: listed already, or appended now
        exact mem_ite_append.mpr ((Decidable.em _).imp List.contains_iff_mem.mp fun hn => ⟨hn, rfl⟩)
    | deleteChannel rows c =>
      obtain ⟨cols, flags, hcl, hfl, rfl | rfl⟩ := deleteChannel_ok ha
      · exact { same with inv := fun h _ => { h with colLen := hcl h.colLen, flagLen := hfl h.flagLen } }
      · refine {
          n := rfl
          inv := fun h _ => { h with
            colLen := hcl h.colLen, flagLen := hfl h.flagLen
            recIdx := fun r hr => h.recIdx r (List.mem_filter.mp hr).1
            extIdx := fun p hp => h.extIdx p (List.mem_filter.mp hp).1 }
          curInv := curInv_removeChan
          chans := fun d hd => Or.inl (List.mem_filter.mp hd).1
          noDangling := fun _ h hd => ⟨fun r hr => ?_, fun p hp => ?_⟩ }
        · obtain ⟨hr, hg⟩ := List.mem_filter.mp hr
          exact isState_removeChan hd (h.1 r hr) hg
        · obtain ⟨hp, hg⟩ := List.mem_filter.mp hp
          exact isState_removeChan hd (h.2 p hp) hg
    | setNode rows k v =>
      obtain ⟨targets, rfl⟩ := setNode_ok ha
      exact { same with inv := fun h _ => { h with colLen := writeCol_len h.colLen } }
    | addToGroup rows name =>
      cases ha
      rw [addToGroup_eq]
      -- `(f := …)` here and below: inferring it through the record is slow to check
      exact { same with
        inv := fun h hv => { h with
          grpIdx := forall_mem_alter (f := (sortedUnion · rows)) h.grpIdx
            (fun g hg r hr => (mem_sortedUnion.mp hr).elim (h.grpIdx _ hg r) (hv r)) hv } }
    | record rows es st =>
      obtain ⟨inds, hi, rfl⟩ := record_ok ha
      exact { same with
        inv := fun h hv => { h with recIdx := forall_mem_recs h.recIdx (hi.lt hv) }
        noDangling := fun hc h _ => ⟨forall_mem_recs h.1 fun _ _ => hi.isState hc, h.2⟩ }
    | deleteRecordings =>
      cases ha
      exact { same with
        inv := fun h _ => { h with recIdx := List.forall_mem_nil _ }
        noDangling := fun _ h _ => ⟨List.forall_mem_nil _, h.2⟩ }
    | externalInput rows es key data =>
      obtain ⟨inds, d, hi, rfl⟩ := externalInput_ok ha
      refine { same with
        inv := fun h hv => { h with extIdx := ?_ }
        noDangling := fun hc h _ => ⟨h.1, forall_mem_alter (f := (· ++ inds.zip d)) (P := fun p => IsState m p.1) h.2
          (fun b hb => h.2 (key, b) hb) (hi.isState hc)⟩ }
      have hlt : ∀ r ∈ inds.zip d, r.1 < m.n := fun r hr => hi.lt hv _ (List.of_mem_zip (a := r.1) (b := r.2) hr).1
      exact forall_mem_alter (f := (· ++ inds.zip d)) h.extIdx
        (fun b hb r hr => (List.mem_append.mp hr).elim (h.extIdx _ hb r) (hlt r)) hlt
    | deleteExternal rows es key =>
      cases ha
      refine { same with
        inv := fun h _ => { h with extIdx := fun p hp r hr => ?_ }
        noDangling := fun _ h _ => ⟨h.1, fun p hp => ?_⟩ }
      · obtain ⟨p0, hp0, -, hsub⟩ := mem_ext_deleteExternal hp
        exact h.extIdx p0 hp0 r (hsub r hr).1
      · obtain ⟨p0, hp0, hk, -⟩ := mem_ext_deleteExternal hp
        exact hk ▸ h.2 p0 hp0
    | makeTrainable key groups | deleteTrainables =>
      cases ha
      exact { same with inv := fun h _ => { h with } }
    | connect pre post s =>
      cases ha
      refine { same with
        inv := fun h hv => { h with edgeIdx := fun e he => ?_ }
        noDangling := fun _ h _ => h.mono (fun _ hx => hx) (fun _ hx => hx) (fun _ hsd => mem_ite_append' hsd) rfl rfl }
      rcases List.mem_append.mp he with he | he
      · exact h.edgeIdx e he
      · obtain ⟨pq, hpq, rfl⟩ := List.mem_map.mp he
        obtain ⟨h1, h2⟩ := List.of_mem_zip (a := pq.1) (b := pq.2) hpq
        exact ⟨hv.1 _ h1, hv.2 _ h2⟩

theorem step_n (m : Mod) (o : Op) : (step m o).n = m.n := (step_keeps m o).n

theorem inv_foldl (ops : List Op) (m : Mod) (h : Inv m) (hv : ∀ o ∈ ops, o.Valid m.n) : Inv (ops.foldl step m) := by
  induction ops generalizing m with
  | nil => exact h
  | cons o os ih =>
    refine ih (step m o) ((step_keeps m o).inv h (hv o List.mem_cons_self)) fun o' ho' => ?_
    rw [step_n]
    exact hv o' (List.mem_cons_of_mem _ ho')

theorem wf_reachable (n : Nat) (geom : List (String × Nat)) (ops : List Op) (hv : ∀ o ∈ ops, o.Valid n) :
    WF (ops.foldl step (init n geom)) :=
  (inv_foldl ops (init n geom) (inv_init n geom) hv).wf

/-- given `CurInv`, which every reachable state has -/
theorem noDangling_step (m : Mod) (o : Op) (h : NoDangling m) (hc : CurInv m) (hd : o.delOkB m = true) :
    NoDangling (step m o) := (step_keeps m o).noDangling hc h hd

/-- `h` and `hd` are not used -/
theorem curInv_step (m : Mod) (o : Op) (h : NoDangling m) (hc : CurInv m) (hd : o.delOkB m = true) :
    CurInv (step m o) := (step_keeps m o).curInv hc

theorem noDangling_foldl (D : List ChanDesc) (hD : ∀ c ∈ D, ∀ d ∈ D, chanCompatB c d = true) (ops : List Op)
    (hops : ∀ o ∈ ops, ∀ c ∈ o.descs, c ∈ D) (m : Mod) (h : NoDangling m) (hc : CurInv m) (hreg : ∀ d ∈ m.chans, d ∈ D) :
    NoDangling (ops.foldl step m) ∧ CurInv (ops.foldl step m) := by
  induction ops generalizing m with
  | nil => exact ⟨h, hc⟩
  | cons o os ih =>
    have hok : o.delOkB m = true := by
      cases o with
      | deleteChannel _ c =>
        exact List.all_eq_true.mpr fun d hd => hD c (hops _ List.mem_cons_self c List.mem_cons_self) d (hreg d hd)
      | _ => rfl
    have hk := step_keeps m o
    exact ih (fun o' ho' => hops o' (List.mem_cons_of_mem _ ho')) (step m o) (hk.noDangling hc h hok) (hk.curInv hc)
      fun d hd => (hk.chans d hd).elim (hreg d) (hops o List.mem_cons_self d)

/-- (C19) **no dangling references after any editing history**: if the channel descriptors used by the history are pairwise
compatible (one descriptor per channel name), then every recording and every external input of the final module refers to a
state that exists in it -/
theorem noDangling_reachable (n : Nat) (geom : List (String × Nat)) (ops : List Op)
    (hcat : ∀ c ∈ ops.flatMap Op.descs, ∀ d ∈ ops.flatMap Op.descs, chanCompatB c d = true) :
    NoDangling (ops.foldl step (init n geom)) :=
  (noDangling_foldl (ops.flatMap Op.descs) hcat ops
    (fun o ho _ hc => List.mem_flatMap.mpr ⟨o, ho, hc⟩) (init n geom) ⟨List.forall_mem_nil _, List.forall_mem_nil _⟩
    (List.forall_mem_nil _) (List.forall_mem_nil _)).1

/-- `delete_channel` adds no recording or input and keeps those of states that do not belong to the channel (N13) -/
theorem delete_channel_recordings (m m' : Mod) (rows : List Nat) (c : ChanDesc) (h : deleteChannel m rows c = .ok m') :
    (∀ r ∈ m'.recs, r ∈ m.recs) ∧ (∀ p ∈ m'.ext, p ∈ m.ext) ∧
    (∀ r ∈ m.recs, ¬ (r.2 ∈ c.keys ∨ r.2 = c.current) → r ∈ m'.recs) ∧
    (∀ p ∈ m.ext, ¬ (p.1 ∈ c.keys ∨ p.1 = c.current) → p ∈ m'.ext) := by
  obtain ⟨cols, flags, -, -, rfl | rfl⟩ := deleteChannel_ok h
  · exact ⟨fun _ h => h, fun _ h => h, fun _ h _ => h, fun _ h _ => h⟩
  · -- a gone state is a state of `c` or its current
    have hg : ∀ s, ¬ (s ∈ c.keys ∨ s = c.current) → (!(goneOf m c).contains s) = true := by
      intro s hn
      rw [Bool.not_eq_true', ← Bool.not_eq_true, List.contains_iff_mem, mem_goneOf]
      exact fun h => hn (h.imp (fun h => List.mem_append_right _ h.1) (·.2))
    exact ⟨fun r hr => (List.mem_filter.mp hr).1, fun p hp => (List.mem_filter.mp hp).1,
      fun r hr hn => List.mem_filter.mpr ⟨hr, hg _ hn⟩, fun p hp hn => List.mem_filter.mpr ⟨hp, hg _ hn⟩⟩

theorem delete_recordings_undoes (m : Mod) :
    (deleteRecordingsAll m).recs = [] ∧ (deleteRecordingsAll m).cols = m.cols ∧ (deleteRecordingsAll m).ext = m.ext ∧
      (deleteRecordingsAll m).groups = m.groups :=
  ⟨rfl, rfl, rfl, rfl⟩

theorem delete_trainables_undoes (m : Mod) (key : String) (groups : List (List Nat)) :
    (deleteTrainablesAll (makeTrainable m key groups)).trainables = [] ∧
      (deleteTrainablesAll (makeTrainable m key groups)).cols = m.cols :=
  ⟨rfl, rfl⟩

theorem deleteExternal_other_keys (m : Mod) (rows es : List Nat) (key : String) (p : String × List (Nat × List Nat))
    (hp : p ∈ m.ext) (hk : (p.1 == key) = false) : p ∈ (deleteExternal m rows es key).ext := by
  exact List.mem_filterMap.mpr ⟨p, hp, if_neg (ne_true_of_eq_false hk)⟩

/-- after deletion no input of that key remains on a label in view: an edge of the view for an edge key, a row otherwise -/
theorem deleteExternal_removes_inView (m : Mod) (rows es : List Nat) (key : String) :
    ∀ p ∈ (deleteExternal m rows es key).ext, (p.1 == key) = true →
      ∀ r ∈ p.2, r.1 ∉ (if (edgeStates m).contains key then es else rows) := by
  intro p hp hpk r hr
  obtain ⟨p0, -, -, hsub⟩ := mem_ext_deleteExternal hp
  exact (hsub r hr).2 hpk

/-- the case of a node key -/
theorem deleteExternal_removes (m : Mod) (rows es : List Nat) (key : String) (hn : (edgeStates m).contains key = false) :
    ∀ p ∈ (deleteExternal m rows es key).ext, (p.1 == key) = true → ∀ r ∈ p.2, r.1 ∉ rows := by
  have h := deleteExternal_removes_inView m rows es key
  rwa [if_neg (ne_true_of_eq_false hn)] at h

/-- the case of an edge key (N10: the labels compared are edge labels, not rows) -/
theorem deleteExternal_removes_edge (m : Mod) (rows es : List Nat) (key : String)
    (hn : (edgeStates m).contains key = true) :
    ∀ p ∈ (deleteExternal m rows es key).ext, (p.1 == key) = true → ∀ r ∈ p.2, r.1 ∉ es := by
  have h := deleteExternal_removes_inView m rows es key
  rwa [if_pos hn] at h

theorem record_keeps_existing (m m' : Mod) (rows es : List Nat) (st : String) (h : record m rows es st = .ok m') :
    ∀ r ∈ m.recs, r ∈ m'.recs := by
  obtain ⟨inds, -, rfl⟩ := record_ok h
  exact fun r hr => mem_dedup.mpr (List.mem_append_left _ hr)

theorem insert_flags (m : Mod) (rows : List Nat) (c : ChanDesc) (i : Nat) (hi : i < m.n) :
    flagAt (insert m rows c) c.name i = (rows.contains i || flagAt m c.name i) := by
  show ((((writeFlag m.n m.flags c.name rows true).find? (·.1 == c.name)).map (·.2)).getD []).getD i false = _
  rw [writeFlag_eq, find?_alter]
  unfold flagAt getFlag
  cases m.flags.find? (·.1 == c.name)
  · -- no column yet: written over `replicate n false`
    show ((List.range m.n).map _).getD i false = _
    rw [getD_updRow hi]
    cases rows.contains i
    · rw [List.getD_eq_getElem?_getD, List.getElem?_replicate, if_pos hi]
      rfl
    · rfl
  · show ((List.range m.n).map _).getD i false = _
    rw [getD_updRow hi]
    cases rows.contains i <;> rfl

def exHH : ChanDesc :=
  { name := "HH", params := [("HH_gNa", 1)], states := [("HH_m", 2), ("HH_h", 3), ("HH_n", 4)], current := "i_HH" }

/-- the N13 history: insert HH on both rows; record `HH_n`; clamp `HH_m`; delete the channel everywhere -/
def exHist : List Op :=
  [.insert [0, 1] exHH, .record [0] [] "HH_n", .externalInput [0] [] "HH_m" [[7]], .deleteChannel [0, 1] exHH]

/-- before the deletion the recording and the clamp are there … -/
example : ((exHist.take 3).foldl step (init 2 [("radius", 1)])).recs = [(0, "HH_n")] ∧
    ((exHist.take 3).foldl step (init 2 [("radius", 1)])).ext = [("HH_m", [(0, [7])])] := by decide

/-- … and they go with the channel (N13 fixed): nothing is left behind -/
example : (exHist.foldl step (init 2 [("radius", 1)])).recs = [] ∧ (exHist.foldl step (init 2 [("radius", 1)])).ext = [] ∧
    (exHist.foldl step (init 2 [("radius", 1)])).chans = [] := by decide

example : NoDangling (exHist.foldl step (init 2 [("radius", 1)])) :=
  noDangling_reachable 2 [("radius", 1)] exHist (by decide)

/-- the corner that remains (why `delOkB` asks for the registered descriptor): deleting "HH" with a descriptor that lists no states removes
the channel but keeps the recording of `HH_n`, which then refers to no state of the module -/
example :
    let fin := ([.insert [0, 1] exHH, .record [0] [] "HH_n",
      .deleteChannel [0, 1] { exHH with states := [] }] : List Op).foldl step (init 2 [])
    fin.recs = [(0, "HH_n")] ∧ "HH_n" ∉ nodeStates fin ∧ "HH_n" ∉ edgeStates fin := by decide

/-- the corner N13b: channel `A` has a STATE `x`, channel `B` a PARAMETER `x`; deleting `A` keeps the shared column `x` but removes
the recording of `x` (no remaining channel has a state of that name) -/
def exA : ChanDesc := { name := "A", params := [], states := [("x", 0)], current := "i_A" }
def exB : ChanDesc := { name := "B", params := [("x", 5)], states := [], current := "i_B" }
def exHistAB : List Op := [.insert [0] exA, .insert [0] exB, .record [0] [] "x", .deleteChannel [0] exA]

example : ((exHistAB.take 3).foldl step (init 1 [])).recs = [(0, "x")] ∧
    (exHistAB.foldl step (init 1 [])).recs = [] ∧
    ((exHistAB.foldl step (init 1 [])).cols.map (·.1)).contains "x" = true ∧
    chanCompatB exA exB = true := by decide

example : NoDangling (exHistAB.foldl step (init 1 [])) := noDangling_reachable 1 [] exHistAB (by decide)

end JaxleyVerif.Props.C19
