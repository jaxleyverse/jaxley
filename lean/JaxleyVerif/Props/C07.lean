/-
C07 — simulations compose in time.

`run = fold step`, its recordings are read along `List.scanl step` (`Model.integrateCore_none`).  Splitting, continuing from
returned states and manual stepping are properties of the fold and of `scanl` (`List.scanl_append`); the
state returned with `return_states=True` is the state after the LAST RETURNED step for EVERY checkpoint layout whose
product covers the run (padding steps are masked: the code with the F6 fix; without it the returned state is the one
after `prod(checkpoint_lengths)` steps).
-/
import JaxleyVerif.Lemmas.Scan

namespace JaxleyVerif.Props.C07
open JaxleyVerif.Model
variable {σ ι ο : Type}

theorem run_append (f : σ → ι → σ × ο) (s : σ) (xs ys : List ι) :
    scan f s (xs ++ ys) = ((scan f (scan f s xs).1 ys).1, (scan f s xs).2 ++ (scan f (scan f s xs).1 ys).2) :=
  scan_append f s xs ys

/-- the state returned with `return_states=True` is the state at the last returned time point, for every layout;
`hls` is not used (`Model.nested_eq_scan_any_layout`) -/
theorem returned_state (step : σ → ι → σ) (rec0 : σ → ο) (zero : ι) (s : σ) (xs : List ι)
    (ls : List Nat) (hls : ls ≠ []) (hlen : xs.length ≤ prodL ls) :
    (integrateCore step rec0 zero s xs (some ls)).2 = xs.foldl step s := by
  rw [integrateCore_some _ _ _ _ _ ls hlen]

/-- stepping manually with `step_fn` from `init_fn` gives the columns and the final state of `integrate` -/
theorem manual_stepping_eq_integrate (step : σ → ι → σ) (rec0 : σ → ο) (zero : ι) (s : σ) (xs : List ι) :
    (integrateCore step rec0 zero s xs none).1
        = rec0 s :: (List.range xs.length).map (fun k => rec0 ((xs.take (k + 1)).foldl step s)) ∧
    (integrateCore step rec0 zero s xs none).2 = xs.foldl step s := by
  rw [integrateCore_none, scanl_eq_folds, List.map_cons, List.map_map]
  exact ⟨rfl, rfl⟩

/-- `integrate` over `xs ++ ys` equals `integrate(return_states)` over `xs` followed by `integrate(all_states=…)`
over `ys`: recordings agree after dropping the duplicated initial column, and so do the returned states -/
theorem integrate_split (step : σ → ι → σ) (rec0 : σ → ο) (zero : ι) (s : σ) (xs ys : List ι) :
    let a := integrateCore step rec0 zero s xs none
    let b := integrateCore step rec0 zero a.2 ys none
    (integrateCore step rec0 zero s (xs ++ ys) none).1 = a.1 ++ b.1.tail ∧
    (integrateCore step rec0 zero s (xs ++ ys) none).2 = b.2 := by
  intro a b
  simp only [a, b, integrateCore_none, List.scanl_append, List.map_append, List.map_tail, List.foldl_append, and_self]

/-- repeated splitting, at the level of `scan` -/
theorem integrate_split_many (f : σ → ι → σ × ο) (s : σ) (parts : List (List ι)) :
    scanChunks (scan f) s parts = scan f s parts.flatten :=
  scanChunks_eq f (scan f) parts (fun _ _ _ => rfl) s

/-- the F6 input: layout `[4,4]`, 10 samples — the returned state is the one after 10 steps, not 16 -/
theorem returned_state_witness :
    (integrateCore (fun (s : Nat) (_ : Nat) => s + 1) id 0 0 (List.replicate 10 0) (some [4, 4])).2 = 10 := by decide

end JaxleyVerif.Props.C07
