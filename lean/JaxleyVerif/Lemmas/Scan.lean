/-
The scan model (core Lean only): every checkpoint layout denotes the flat scan (`nested_eq_scan_any_layout`), and what `integrate`
returns for every layout that covers the run (`integrateCore_some`): the recordings of the states `xs.scanl step s` the run passes
through, and the last of them.  What C06–C08 say about the time axis is then what core's lemmas say about `List.scanl`.
-/
import JaxleyVerif.Model.Scan

namespace JaxleyVerif.Model
variable {σ ι ο : Type}

theorem scan_append (f : σ → ι → σ × ο) (s : σ) (xs ys : List ι) :
    scan f s (xs ++ ys) = ((scan f (scan f s xs).1 ys).1, (scan f s xs).2 ++ (scan f (scan f s xs).1 ys).2) := by
  induction xs generalizing s with
  | nil => rfl
  | cons x xs ih => simp only [List.cons_append, scan, ih]

theorem scan_length (f : σ → ι → σ × ο) (s : σ) (xs : List ι) : (scan f s xs).2.length = xs.length := by
  induction xs generalizing s with
  | nil => rfl
  | cons x xs ih => exact congrArg Nat.succ (ih _)

theorem scanChunks_eq (f : σ → ι → σ × ο) (g : σ → List ι → σ × List ο) (cs : List (List ι))
    (hg : ∀ s c, c ∈ cs → g s c = scan f s c) (s : σ) : scanChunks g s cs = scan f s cs.flatten := by
  induction cs generalizing s with
  | nil => rfl
  | cons c cs ih =>
    rw [scanChunks, List.flatten_cons, hg s c List.mem_cons_self,
      ih (fun s c hc => hg s c (List.mem_cons_of_mem _ hc)), scan_append]

theorem chunks_length_drop {n k : Nat} {xs : List ι} (h : xs.length = (k + 1) * n) : (xs.drop n).length = k * n := by
  rw [List.length_drop, h, Nat.succ_mul, Nat.add_sub_cancel]

theorem chunks_flatten (n k : Nat) (xs : List ι) (h : xs.length = k * n) : (chunks n k xs).flatten = xs := by
  induction k generalizing xs with
  | zero => exact (List.eq_nil_of_length_eq_zero (h.trans (Nat.zero_mul n))).symm
  | succ k ih => rw [chunks, List.flatten_cons, ih _ (chunks_length_drop h), List.take_append_drop]

theorem chunks_mem_length (n k : Nat) (xs : List ι) (h : xs.length = k * n) :
    ∀ c ∈ chunks n k xs, c.length = n := by
  induction k generalizing xs with
  | zero => exact fun _ hc => nomatch hc
  | succ k ih =>
    intro c hc
    rcases List.mem_cons.mp hc with rfl | hc
    · rw [List.length_take, h, Nat.succ_mul]; exact Nat.min_eq_left (Nat.le_add_left _ _)
    · exact ih _ (chunks_length_drop h) c hc

/-- the empty layout, which jaxley's `integrate` never passes, included -/
theorem nested_eq_scan_any_layout (f : σ → ι → σ × ο) : ∀ (ls : List Nat) (s : σ) (xs : List ι),
    xs.length = prodL ls → nested f ls s xs = scan f s xs
  | [], _, _, _ => rfl
  | [_], _, _, _ => rfl
  | l :: l' :: ls, s, xs, h => by
    rw [nested, scanChunks_eq f (nested f (l' :: ls)) _ (fun s c hc =>
      nested_eq_scan_any_layout f (l' :: ls) s c (chunks_mem_length _ _ xs h c hc)) s,
      chunks_flatten _ _ xs h]

theorem nested_eq_scan (f : σ → ι → σ × ο) : ∀ (ls : List Nat), ls ≠ [] → ∀ (s : σ) (xs : List ι),
    xs.length = prodL ls → nested f ls s xs = scan f s xs :=
  fun ls _ => nested_eq_scan_any_layout f ls

theorem scan_padding (step : σ → ι → σ) (rec0 : σ → ο) (zero : ι) (s : σ) (k : Nat) :
    (scan (body step rec0) s (List.replicate k (zero, true))).1 = s := by
  induction k with
  | zero => rfl
  | succ k ih => exact ih  -- a padding step keeps the state: `body … s (zero, true) = (s, rec0 s)` by `rfl`

/-- the outputs are the recordings of all states but the first, which `integrateCore` puts in front -/
theorem scan_body (step : σ → ι → σ) (rec0 : σ → ο) (s : σ) (xs : List ι) :
    (scan (body step rec0) s (xs.map (fun x => (x, false)))).1 = xs.foldl step s ∧
    rec0 s :: (scan (body step rec0) s (xs.map (fun x => (x, false)))).2 = (xs.scanl step s).map rec0 := by
  induction xs generalizing s with
  | nil => exact ⟨rfl, rfl⟩
  | cons x xs ih =>
    rw [List.scanl_cons, List.map_cons (f := rec0), ← (ih _).2]
    exact ⟨(ih _).1, rfl⟩

theorem scanl_eq_folds (step : σ → ι → σ) (s : σ) (xs : List ι) :
    xs.scanl step s = s :: (List.range xs.length).map (fun k => (xs.take (k + 1)).foldl step s) := by
  induction xs generalizing s with
  | nil => rfl
  | cons x xs ih =>
    rw [List.scanl_cons, ih, List.length_cons, List.range_succ_eq_map, List.map_cons, List.map_map]
    rfl

/-- the returned state is the state after the real steps, not after `prod(checkpoint_lengths)` of them (F6): padding steps
are masked, their outputs cut off -/
theorem integrateCore_some (step : σ → ι → σ) (rec0 : σ → ο) (zero : ι) (s : σ) (xs : List ι) (ls : List Nat)
    (hlen : xs.length ≤ prodL ls) :
    integrateCore step rec0 zero s xs (some ls) = ((xs.scanl step s).map rec0, xs.foldl step s) := by
  have hpad : (xs.map (fun x => (x, false)) ++ List.replicate (prodL ls - xs.length) (zero, true)).length = prodL ls := by
    rw [List.length_append, List.length_map, List.length_replicate, Nat.add_sub_cancel' hlen]
  unfold integrateCore
  dsimp only
  rw [nested_eq_scan_any_layout _ ls _ _ hpad, scan_append, scan_padding,
    List.take_left' ((scan_length _ _ _).trans (List.length_map _)), (scan_body step rec0 s xs).1, (scan_body step rec0 s xs).2]

/-- as the code: `checkpoint_lengths = [nsteps_to_return]` -/
theorem integrateCore_none (step : σ → ι → σ) (rec0 : σ → ο) (zero : ι) (s : σ) (xs : List ι) :
    integrateCore step rec0 zero s xs none = ((xs.scanl step s).map rec0, xs.foldl step s) :=
  integrateCore_some step rec0 zero s xs [xs.length] (Nat.le_of_eq (Nat.mul_one _).symm)

end JaxleyVerif.Model
