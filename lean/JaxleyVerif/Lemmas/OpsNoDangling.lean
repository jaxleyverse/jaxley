/-
"No dangling references" (`NoDangling`) for the state machine `Model.Ops` (core Lean only).  The invariant is proved together
with `CurInv` (the current of every registered channel is listed in `currents`), without which a view could accept a current name
that the module does not know.

Only `deleteChannel` makes states disappear; it needs a side condition (`delOkB`: a registered channel of the same name IS the
descriptor handed to `delete_channel`), see `Props/C19.lean` for the counterexample.  Everything else keeps or enlarges the
registries, for which `IsState.mono` is enough.
-/
import JaxleyVerif.Lemmas.OpsFrame

namespace JaxleyVerif.Model.Ops

/-- every recording and every input refers to a state that exists in the module -/
def NoDangling (m : Mod) : Prop :=
  (∀ r ∈ m.recs, r.2 ∈ nodeStates m ∨ r.2 ∈ edgeStates m) ∧ (∀ p ∈ m.ext, p.1 ∈ nodeStates m ∨ p.1 ∈ edgeStates m)

def CurInv (m : Mod) : Prop := ∀ c ∈ m.chans, c.current ∈ m.currents

/-- one name means one descriptor -/
def chanCompatB (c d : ChanDesc) : Bool :=
  if c.name == d.name then decide (c = d) else true

def delOkB (m : Mod) (c : ChanDesc) : Bool := m.chans.all (fun d => chanCompatB c d)

/-- what `NoDangling` asks of every stored name -/
def IsState (m : Mod) (s : String) : Prop := s ∈ nodeStates m ∨ s ∈ edgeStates m

theorem IsState.mono {m m' : Mod} {s : String} (hc : ∀ c ∈ m.chans, c ∈ m'.chans) (hi : ∀ x ∈ m.currents, x ∈ m'.currents)
    (hs : ∀ x ∈ m.syns, x ∈ m'.syns) (h : IsState m s) : IsState m' s := by
  refine h.imp (fun h => ?_) (fun h => ?_)
  · rw [mem_nodeStates] at h ⊢
    exact h.imp (fun ⟨c, hcm, hcs⟩ => ⟨c, hc c hcm, hcs⟩) (Or.imp_right (Or.imp_right (hi s)))
  · rw [mem_edgeStates] at h ⊢
    exact h.imp fun sd hsd => ⟨hs sd hsd.1, hsd.2⟩

theorem NoDangling.mono {m m' : Mod} (h : NoDangling m) (hc : ∀ c ∈ m.chans, c ∈ m'.chans)
    (hi : ∀ x ∈ m.currents, x ∈ m'.currents) (hs : ∀ x ∈ m.syns, x ∈ m'.syns) (hr : m'.recs = m.recs) (he : m'.ext = m.ext) :
    NoDangling m' :=
  ⟨fun r hr' => IsState.mono hc hi hs (h.1 r (hr ▸ hr')), fun p hp => IsState.mono hc hi hs (h.2 p (he ▸ hp))⟩

theorem nodeStatesIn_sub {m : Mod} (hc : CurInv m) {rows : List Nat} {s : String} (h : s ∈ nodeStatesIn m rows) :
    s ∈ nodeStates m := by
  unfold nodeStatesIn at h
  rw [mem_nodeStates]
  rw [List.mem_append, List.mem_append] at h
  rcases h with (h | h) | h
  · obtain ⟨c, hcm, hs⟩ := List.mem_flatMap.mp h
    exact Or.inl ⟨c, (List.mem_filter.mp hcm).1, hs⟩
  · rw [List.mem_cons, List.mem_singleton] at h
    exact Or.inr (h.imp_right Or.inl)
  · obtain ⟨c, hcm, rfl⟩ := List.mem_map.mp h
    exact Or.inr (Or.inr (Or.inr (hc c (List.mem_filter.mp hcm).1)))

theorem edgeStatesIn_sub {m : Mod} {es : List Nat} {s : String} (h : s ∈ edgeStatesIn m es) : s ∈ edgeStates m := by
  unfold edgeStatesIn at h
  rw [mem_edgeStates]
  rcases List.mem_append.mp h with h | h
  · obtain ⟨sd, hsd, hs⟩ := List.mem_flatMap.mp h
    exact ⟨sd, (List.mem_filter.mp hsd).1, Or.inl hs⟩
  · obtain ⟨sd, hsd, rfl⟩ := List.mem_map.mp h
    exact ⟨sd, hsd, Or.inr rfl⟩

theorem Accepts.isState {m : Mod} (hc : CurInv m) {rows es inds : List Nat} {st : String} (h : Accepts m rows es st inds) :
    IsState m st :=
  h.imp (fun h => nodeStatesIn_sub hc h.2) (fun h => edgeStatesIn_sub h.2)

theorem mem_currents_removeChan {m : Mod} {c : ChanDesc} {x : String} (h : x ∈ m.currents)
    (hne : (removeChan m c).chans.any (·.current == c.current) = false → x ≠ c.current) :
    x ∈ (removeChan m c).currents := by
  show x ∈ (if _ then _ else _)
  split
  · exact h
  · rename_i hno
    exact (List.mem_erase_of_ne (hne (Bool.eq_false_iff.mpr hno))).mpr h

/-- `hg` is the predicate of the `filter`s in `deleteChannel` verbatim, so `(List.mem_filter.mp _).2` fits -/
theorem isState_removeChan {m : Mod} {c : ChanDesc} (hok : delOkB m c = true) {s : String} (hs : IsState m s)
    (hg : (!(goneOf m c).contains s) = true) : IsState (removeChan m c) s := by
  refine hs.imp (fun hs => ?_) id
  have hng : s ∉ goneOf m c := by simpa using hg
  rw [mem_goneOf, not_or] at hng
  rw [mem_nodeStates] at hs ⊢
  rcases hs with ⟨d, hd, hsd⟩ | h | h | h
  · by_cases hname : d.name = c.name
    · -- the registered descriptor is the one handed to `delete_channel`
      have hcomp := (List.all_eq_true.mp hok) d hd
      unfold chanCompatB at hcomp
      rw [if_pos (beq_iff_eq.mpr hname.symm)] at hcomp
      obtain rfl : c = d := of_decide_eq_true hcomp
      -- its state `s` is not gone, hence a state of a channel that stays
      have hstay : (removeChan m c).chans.any (fun o => o.states.any (·.1 == s)) = true :=
        Decidable.byContradiction fun hno => hng.1 ⟨hsd, Bool.eq_false_iff.mpr hno⟩
      obtain ⟨o, ho, hso⟩ := List.any_eq_true.mp hstay
      obtain ⟨st, hst, he⟩ := List.any_eq_true.mp hso
      exact Or.inl ⟨o, ho, List.mem_map.mpr ⟨st, hst, beq_iff_eq.mp he⟩⟩
    · exact Or.inl ⟨d, List.mem_filter.mpr ⟨hd, bne_iff_ne.mpr hname⟩, hsd⟩
  · exact Or.inr (Or.inl h)
  · exact Or.inr (Or.inr (Or.inl h))
  · -- erased only if no remaining channel shares it, and then `s` is not it
    exact Or.inr (Or.inr (Or.inr (mem_currents_removeChan h fun hno he => hng.2 ⟨hno, he⟩)))

theorem curInv_removeChan {m : Mod} {c : ChanDesc} (hc : CurInv m) : CurInv (removeChan m c) := fun d hd =>
  -- `d` stays, so its current is not the erased one
  mem_currents_removeChan (hc d (List.mem_filter.mp hd).1) fun hno he =>
    Bool.eq_false_iff.mp hno (List.any_eq_true.mpr ⟨d, hd, beq_iff_eq.mpr he⟩)

end JaxleyVerif.Model.Ops
