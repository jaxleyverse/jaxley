/-
Correctness of the abstract Hines solver over an arbitrary field: the children's terms of a row are what the upward pass
accumulated (`sumDown_eq`), so the value the downward pass assigns solves the row.
-/
import Mathlib.Tactic.Ring
import Mathlib.Tactic.LinearCombination
import JaxleyVerif.Model.Hines

namespace JaxleyVerif.Model.HTree
variable {K : Type} [Field K]

/-- value assigned to the root of `t` by the backward pass, given the parent's value -/
def xval (xp : K) : HTree K → K
  | node i d b up down kids => ((elim (node i d b up down kids)).2 - up * xp) / (elim (node i d b up down kids)).1

def upOf : HTree K → K | node _ _ _ up _ _ => up
def downOf : HTree K → K | node _ _ _ _ down _ => down
def kidsOf : HTree K → List (HTree K) | node _ _ _ _ _ kids => kids

mutual
/-- all pivots met by the elimination are non-zero -/
def Piv : HTree K → Prop
  | node i d b up down kids => (elim (node i d b up down kids)).1 ≠ 0 ∧ PivKids kids
def PivKids : List (HTree K) → Prop
  | [] => True
  | t :: rest => Piv t ∧ PivKids rest
end

/-- `Σ_c down_c · x_c` over the children, with the values the backward pass assigns -/
def sumDown (x : K) : List (HTree K) → K
  | [] => 0
  | t :: rest => downOf t * xval x t + sumDown x rest

mutual
/-- every row of the subtree holds for the values assigned by the backward pass -/
def Holds (xp : K) : HTree K → Prop
  | node i d b up down kids =>
    let x := xval xp (node i d b up down kids)
    d * x + up * xp + sumDown x kids = b ∧ HoldsKids x kids
def HoldsKids (x : K) : List (HTree K) → Prop
  | [] => True
  | t :: rest => Holds x t ∧ HoldsKids x rest
end

theorem sumDown_eq (x : K) : ∀ kids : List (HTree K),
    sumDown x kids = (elimKids kids).2 - x * (elimKids kids).1
  | [] => by simp [sumDown, elimKids]
  | (node i d b up down kids) :: rest => by
    simp only [sumDown, elimKids, downOf, xval, sumDown_eq x rest]
    ring

mutual
theorem hines_correct (xp : K) : ∀ t : HTree K, Piv t → Holds xp t
  | node i d b up down kids, h => by
    obtain ⟨hp, hk⟩ := h
    refine ⟨?_, hinesKids_correct _ kids hk⟩
    -- `x · d' = b' − up · xp` with the pivot `d' = d − Σ…` and `b' = b − Σ…`
    have hp' : d - (elimKids kids).1 ≠ 0 := hp
    have hx : xval xp (node i d b up down kids) * (d - (elimKids kids).1) = b - (elimKids kids).2 - up * xp :=
      div_mul_cancel₀ _ hp'
    rw [sumDown_eq]
    linear_combination hx
theorem hinesKids_correct (x : K) : ∀ kids : List (HTree K), PivKids kids → HoldsKids x kids
  | [], _ => trivial
  | t :: rest, h => ⟨hines_correct x t h.1, hinesKids_correct x rest h.2⟩
end

/-- the association list returned by `back` carries exactly these values -/
theorem back_head (xp : K) (i : Nat) (d b up down : K) (kids : List (HTree K)) :
    back xp (node i d b up down kids)
      = (i, xval xp (node i d b up down kids)) :: backKids (xval xp (node i d b up down kids)) kids := by
  simp [back, xval]

end JaxleyVerif.Model.HTree
