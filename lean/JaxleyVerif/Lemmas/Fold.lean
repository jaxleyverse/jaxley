/-
What a view of the accumulator (one row of a table, one named array of a state) sees of a fold (core Lean only).
The loops of the model (`Model/Step.lean`, `Model/Sim.lean`) are folds over channels, member rows, externals, edges; the
theorems about them say what one row or one array looks like afterwards.
A row is viewed by `·[r]?`, not by `·.getD r default`: `none` carries "row `r` does not exist" through the
loop (a write beyond the end is dropped by `set` / `modify`, and `none.map f = none` agrees), so no step lemma needs a
length invariant.
The counterpart of `foldl_view_nodup` for a step that reads the state at the start of the level is `foldl_frozen_eq` in
`Lemmas/SolveJaxleyGlobal.lean` (it needs Mathlib's `List.foldl_ext`).
-/
namespace JaxleyVerif

/-- `List.foldl_hom`; `h0` is separate so that the initial view may be given in another form -/
theorem foldl_view {σ ρ ι : Type} (view : σ → ρ) {body : σ → ι → σ} {φ : ρ → ι → ρ} {L : List ι} {s : σ} {r : ρ}
    (h0 : view s = r) (h : ∀ s i, view (body s i) = φ (view s) i) : view (L.foldl body s) = L.foldl φ r := by
  subst h0
  exact (List.foldl_hom view (fun s i => (h s i).symm)).symm

theorem foldl_view_fixed {σ ρ ι : Type} (view : σ → ρ) {body : σ → ι → σ} {L : List ι} (s : σ)
    (h : ∀ s, ∀ i ∈ L, view (body s i) = view s) : view (L.foldl body s) = view s := by
  induction L generalizing s with
  | nil => rfl
  | cons i t ih =>
    rw [List.foldl_cons, ih _ (fun s j hj => h s j (List.mem_cons_of_mem _ hj)), h s i List.mem_cons_self]

/-- a vectorised call over distinct rows seen from row `j`: if the calls for the other rows leave the view alone, the loop looks
like the one call for row `j` (made on a state `t` that looks like the initial one), if there is one -/
theorem foldl_view_nodup {σ ρ : Type} (view : σ → ρ) (body : σ → Nat → σ) (j : Nat)
    (hne : ∀ s i, i ≠ j → view (body s i) = view s) :
    ∀ (L : List Nat), L.Nodup → ∀ s, ∃ t, view t = view s ∧
      view (L.foldl body s) = if j ∈ L then view (body t j) else view s := by
  intro L
  induction L with
  | nil => exact fun _ s => ⟨s, rfl, rfl⟩
  | cons i t ih =>
    intro hnd s
    obtain ⟨hi, ht⟩ := List.nodup_cons.mp hnd
    rw [List.foldl_cons]
    by_cases h : i = j
    · subst h
      -- row `j` comes first and not again: the rest of the loop leaves the view alone
      exact ⟨s, rfl, by
        rw [foldl_view_fixed view _ (fun s k hk => hne s k (fun e => hi (e ▸ hk))), if_pos List.mem_cons_self]⟩
    · obtain ⟨t', ht', e⟩ := ih ht (body s i)
      have hji : ¬ j = i := fun hh => h hh.symm
      refine ⟨t', ht'.trans (hne s i h), ?_⟩
      rw [e, hne s i h]
      simp only [List.mem_cons, hji, false_or]

end JaxleyVerif
