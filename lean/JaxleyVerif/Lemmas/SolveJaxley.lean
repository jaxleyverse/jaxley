/-
What tridiax's Thomas routines do to one padded slot, over an arbitrary field, and that both leave the solution set of the slot's
rows as it was.  Every row operation is an instance of `row_add_iff` or `row_scale_iff`.
-/
import Mathlib.Tactic.LinearCombination
import JaxleyVerif.Lemmas.SolveJaxleyBasics

namespace JaxleyVerif.Model.SolveJaxley
variable {K : Type} [Field K]

theorem ite_mul_eq_zero {c : Prop} [Decidable c] {a b : K} (h : c → a = 0) : (if c then a * b else 0) = 0 := by
  split
  · rw [h ‹_›, zero_mul]
  · rfl

/-- the fact behind every elimination step: adding `f` times a row `r = s` that holds to the row `a = b` gives a row `c = d` with the
same solutions … -/
theorem row_add_iff {a b c d r s : K} (hr : r = s) (f : K) (key : c - d = a - b + f * (r - s)) : c = d ↔ a = b := by
  rw [← sub_eq_zero, key, sub_eq_zero.mpr hr, mul_zero, add_zero, sub_eq_zero]

/-- … and so does scaling it with a factor `k ≠ 0` -/
theorem row_scale_iff {a b c d k : K} (hk : k ≠ 0) (key : c - d = k * (a - b)) : c = d ↔ a = b := by
  rw [← sub_eq_zero, key, mul_eq_zero, or_iff_right hk, sub_eq_zero]

/-- the rows `A i` of a system may be exchanged for rows `B i` one at a time, if the exchange of row `i` needs only new rows that
come earlier in some order `m` (a triangular change of rows) -/
theorem forall_Icc_iff (m : Nat → Nat) {A B : Nat → Prop} {s e : Nat}
    (h : ∀ i, s ≤ i → i ≤ e → (∀ j, s ≤ j → j ≤ e → m j < m i → B j) → (A i ↔ B i)) :
    (∀ i, s ≤ i → i ≤ e → A i) ↔ (∀ i, s ≤ i → i ≤ e → B i) := by
  refine ⟨fun hA => ?_, fun hB i h1 h2 => (h i h1 h2 fun j j1 j2 _ => hB j j1 j2).mpr (hB i h1 h2)⟩
  suffices hs : ∀ n i, m i < n → s ≤ i → i ≤ e → B i from fun i => hs (m i + 1) i (Nat.lt_succ_self _)
  intro n
  induction n with
  | zero => intro i hi; omega
  | succ n ih =>
    intro i _ h1 h2
    exact (h i h1 h2 fun j j1 j2 hj => ih j (by omega) j1 j2).mp (hA i h1 h2)

/-- one step of `pe`, with the row index instead of the distance from the end -/
theorem pe_sub (d lo up b : Nat → K) (e i : Nat) (h : i < e) :
    pe d lo up b e (e - i) =
      (d i - up i * lo (i + 1) / (pe d lo up b e (e - (i + 1))).1,
       b i - up i * (pe d lo up b e (e - (i + 1))).2 / (pe d lo up b e (e - (i + 1))).1) := by
  have h1 : e - i = (e - (i + 1)) + 1 := by omega
  have h2 : e - ((e - (i + 1)) + 1) = i := by omega
  rw [h1]
  simp only [pe, h2]

theorem pe_sub_fst (d lo up b : Nat → K) (e i : Nat) (h : i < e) :
    (pe d lo up b e (e - i)).1 = d i - up i * lo (i + 1) / (pe d lo up b e (e - (i + 1))).1 :=
  congrArg Prod.fst (pe_sub d lo up b e i h)

theorem pe_congr {d lo up y d' lo' up' y' : Nat → K} {e : Nat} : ∀ k, k ≤ e →
    (∀ j, e - k ≤ j → j ≤ e → d' j = d j ∧ lo' j = lo j ∧ up' j = up j ∧ y' j = y j) →
    pe d' lo' up' y' e k = pe d lo up y e k := by
  intro k
  induction k with
  | zero =>
    intro _ h
    obtain ⟨a, -, -, b⟩ := h e (by omega) le_rfl
    simp only [pe, a, b]
  | succ k ih =>
    intro hk h
    have ih' := ih (by omega) (fun j h1 h2 => h j (by omega) h2)
    obtain ⟨a1, -, a3, a4⟩ := h (e - (k + 1)) le_rfl (by omega)
    obtain ⟨-, b2, -, -⟩ := h (e - (k + 1) + 1) (by omega) (by omega)
    simp only [pe]
    rw [ih', a1, a3, a4, b2]

theorem triangMid_spec (d lo up b : Nat → K) (s e : Nat) :
    ∀ (k : Nat) (u y : Nat → K), s + k < e →
      (∀ i, s + k < i → i ≤ e → u i = lo i / (pe d lo up b e (e - i)).1 ∧
          y i = (pe d lo up b e (e - i)).2 / (pe d lo up b e (e - i)).1) →
      ∀ i, s < i → i ≤ e →
        (triangMid d lo up b s k (u, y)).1 i = lo i / (pe d lo up b e (e - i)).1 ∧
        (triangMid d lo up b s k (u, y)).2 i = (pe d lo up b e (e - i)).2 / (pe d lo up b e (e - i)).1 := by
  intro k
  induction k with
  | zero =>
    intro u y _ hinv i hi hie
    exact hinv i (by omega) hie
  | succ k ih =>
    intro u y hk hinv i hi hie
    simp only [triangMid]
    refine ih _ _ (by omega) ?_ i hi hie
    intro j hj hje
    by_cases hjk : j = s + (k + 1)
    · subst hjk
      obtain ⟨hu, hy⟩ := hinv (s + (k + 1) + 1) (by omega) (by omega)
      rw [upd_same, upd_same, pe_sub d lo up b e _ hk, hu, hy]
      -- `triangMid` multiplies by the normalised entry, `pe` divides the product
      simp only [mul_div_assoc]
      exact ⟨trivial, trivial⟩
    · rw [upd_ne hjk, upd_ne hjk]
      exact hinv j (by omega) hje

theorem triangSlot_of_lt (st : St K) (s e : Nat) (h : s < e) : ∃ u y : Nat → K,
    (∀ i, s < i → i ≤ e → u i = st.lowers i / (pe st.diags st.lowers st.uppers st.solves e (e - i)).1 ∧
      y i = (pe st.diags st.lowers st.uppers st.solves e (e - i)).2 / (pe st.diags st.lowers st.uppers st.solves e (e - i)).1) ∧
    triangSlot st s e =
      { st with
        diags := fun j => if j = s then st.diags s - st.uppers s * u (s + 1) else if s < j ∧ j ≤ e then 1 else st.diags j
        lowers := fun j => if s < j ∧ j ≤ e then u j else st.lowers j
        solves := fun j => if j = s then st.solves s - st.uppers s * y (s + 1) else if s < j ∧ j ≤ e then y j else st.solves j
        uppers := fun j => if s ≤ j ∧ j < e then 0 else st.uppers j } := by
  refine ⟨_, _, triangMid_spec st.diags st.lowers st.uppers st.solves s e (e - s - 1)
    (upd (fun _ => 0) e (st.lowers e / st.diags e)) (upd (fun _ => 0) e (st.solves e / st.diags e)) (by omega)
    fun j hj hje => ?_, ?_⟩
  · obtain rfl : j = e := by omega
    -- the last row: `pe … 0` is the row itself
    rw [upd_same, upd_same, Nat.sub_self]
    exact ⟨rfl, rfl⟩
  · unfold triangSlot
    rw [if_neg (by omega)]

/-- a one-row slot is returned unchanged (`n = 1` in tridiax) -/
theorem triangSlot_single (st : St K) (s e : Nat) (h : e ≤ s) : triangSlot st s e = st := by
  unfold triangSlot
  rw [if_pos h]

theorem triangSlot_frame (st : St K) (s e j : Nat) (hj : j < s ∨ e < j) :
    (triangSlot st s e).diags j = st.diags j ∧ (triangSlot st s e).lowers j = st.lowers j ∧
    (triangSlot st s e).uppers j = st.uppers j ∧ (triangSlot st s e).solves j = st.solves j := by
  rcases Nat.lt_or_ge s e with h | h
  · obtain ⟨u, y, -, hst⟩ := triangSlot_of_lt st s e h
    rw [hst]
    have h1 : j ≠ s := by omega
    have h2 : ¬ (s < j ∧ j ≤ e) := by omega
    have h3 : ¬ (s ≤ j ∧ j < e) := by omega
    simp only [if_neg h1, if_neg h2, if_neg h3, and_self]
  · rw [triangSlot_single st s e h]
    exact ⟨rfl, rfl, rfl, rfl⟩

/-- the two states have the same branch-point arrays -/
structure BpEq (st st' : St K) : Prop where
  bpDiags : st'.bpDiags = st.bpDiags
  bpSolves : st'.bpSolves = st.bpSolves
  condC : st'.condC = st.condC
  weightC : st'.weightC = st.weightC
  condP : st'.condP = st.condP
  weightP : st'.weightP = st.weightP

theorem triangSlot_bp (st : St K) (s e : Nat) : BpEq st (triangSlot st s e) := by
  rcases Nat.lt_or_ge s e with h | h
  · obtain ⟨u, y, -, hst⟩ := triangSlot_of_lt st s e h
    rw [hst]
    exact ⟨rfl, rfl, rfl, rfl, rfl, rfl⟩
  · rw [triangSlot_single st s e h]
    exact ⟨rfl, rfl, rfl, rfl, rfl, rfl⟩

theorem triangSlot_mid (st : St K) (s e : Nat) (h : s < e) (i : Nat) (h1 : s < i) (h2 : i ≤ e) :
    (triangSlot st s e).diags i = 1 ∧
    (triangSlot st s e).lowers i = st.lowers i / (pe st.diags st.lowers st.uppers st.solves e (e - i)).1 ∧
    (triangSlot st s e).solves i = (pe st.diags st.lowers st.uppers st.solves e (e - i)).2 /
      (pe st.diags st.lowers st.uppers st.solves e (e - i)).1 := by
  obtain ⟨u, y, huy, hst⟩ := triangSlot_of_lt st s e h
  rw [hst]
  simp only [if_neg (Nat.ne_of_gt h1), if_pos (And.intro h1 h2)]
  exact ⟨trivial, huy i h1 h2⟩

/-- `thomas_triang_upper` on the slot `[s, e]`, `s < e`: only the first row stays un-normalised -/
theorem triangSlot_spec (st : St K) (s e : Nat) (h : s < e) :
    let P := pe st.diags st.lowers st.uppers st.solves e
    let st' := triangSlot st s e
    st'.diags s = (P (e - s)).1 ∧ st'.solves s = (P (e - s)).2 ∧
    (∀ k, k < e - s → st'.diags (e - k) = 1 ∧ st'.lowers (e - k) = st.lowers (e - k) / (P k).1 ∧
        st'.solves (e - k) = (P k).2 / (P k).1) ∧
    (∀ j, s ≤ j → j < e → st'.uppers j = 0) := by
  intro P st'
  obtain ⟨u, y, huy, hst⟩ := triangSlot_of_lt st s e h
  -- the first row is not normalised: it is the input row minus `uppers s` times the normalised second row
  obtain ⟨hu, hy⟩ := huy (s + 1) (by omega) (by omega)
  have hPs : P (e - s) = _ := pe_sub st.diags st.lowers st.uppers st.solves e s h
  have hst' : st' = _ := hst
  refine ⟨?_, ?_, fun k hk => ?_, fun j hj1 hj2 => ?_⟩
  · rw [hst', hPs]
    simp only [↓reduceIte, hu, mul_div_assoc]
  · rw [hst', hPs]
    simp only [↓reduceIte, hy, mul_div_assoc]
  · have := triangSlot_mid st s e h (e - k) (by omega) (by omega)
    rwa [Nat.sub_sub_self (by omega)] at this
  · rw [hst']
    simp only [if_pos (And.intro hj1 hj2)]

theorem triangSlot_diag_first (st : St K) (s e : Nat) (h : s ≤ e) :
    (triangSlot st s e).diags s = (pe st.diags st.lowers st.uppers st.solves e (e - s)).1 := by
  rcases Nat.eq_or_lt_of_le h with rfl | hlt
  · rw [triangSlot_single st _ _ le_rfl, Nat.sub_self]
    rfl
  · exact (triangSlot_spec st _ _ hlt).1

/-- padding rows behind the last REAL row `l` of a slot do not change the pivots of the real rows, whatever they contain: the last
real row has no upper entry reaching into them, so the recursion continues exactly as if the slot ended at `l` -/
theorem pe_padding_shift (d lo up b : Nat → K) (l e k : Nat) (hle : l ≤ e) (hk : k ≤ l) (hup : l < e → up l = 0) :
    pe d lo up b e (e - l + k) = pe d lo up b l k := by
  induction k with
  | zero =>
    rcases Nat.eq_or_lt_of_le hle with rfl | h
    · rw [Nat.sub_self]
    · rw [Nat.add_zero, pe_sub d lo up b e l h, hup h]
      simp only [pe, zero_mul, zero_div, sub_zero]
  | succ k ih =>
    have h1 : e - l + (k + 1) = (e - l + k) + 1 := by omega
    have h2 : e - (e - l + k + 1) = l - (k + 1) := by omega
    rw [h1]
    simp only [pe, h2]
    rw [ih (by omega)]

theorem backMid_frame {lo y : Nat → K} {s : Nat} :
    ∀ {n : Nat} {x : Nat → K} {j : Nat}, (j ≤ s ∨ s + n < j) → backMid lo y s n x j = x j := by
  intro n
  induction n with
  | zero => intro x j _; rfl
  | succ n ih =>
    intro x j hj
    simp only [backMid]
    rw [upd_ne (by omega)]
    exact ih (by omega)

theorem backMid_rec (lo y : Nat → K) (s : Nat) :
    ∀ (n : Nat) (x : Nat → K) (i : Nat), s < i → i ≤ s + n →
      backMid lo y s n x i = y i - lo i * backMid lo y s n x (i - 1) := by
  intro n
  induction n with
  | zero => intro x i h1 h2; omega
  | succ n ih =>
    intro x i h1 h2
    simp only [backMid]
    by_cases hi : i = s + (n + 1)
    · subst hi
      rw [upd_same, upd_ne (by omega)]
    · rw [upd_ne hi, upd_ne (by omega)]
      exact ih x i h1 (by omega)

/-- `thomas_backsub_lower` on the slot `[s, e]` -/
theorem backsubSlot_spec (st : St K) (s e : Nat) (h : s ≤ e) :
    let st' := backsubSlot st s e
    st'.solves s = st.solves s / st.diags s ∧
    (∀ i, s < i → i ≤ e → st'.solves i = st.solves i - st.lowers i * st'.solves (i - 1)) ∧
    (∀ i, s ≤ i → i ≤ e → st'.diags i = 1) ∧ (∀ i, s < i → i ≤ e → st'.lowers i = 0) ∧ st'.uppers = st.uppers := by
  intro st'
  have hsol : ∀ i, s ≤ i → i ≤ e → st'.solves i =
      backMid st.lowers st.solves s (e - s) (upd st.solves s (st.solves s / st.diags s)) i :=
    fun i h1 h2 => if_pos ⟨h1, h2⟩
  refine ⟨?_, fun i h1 h2 => ?_, fun i h1 h2 => if_pos ⟨h1, h2⟩, fun i h1 h2 => if_pos ⟨h1, h2⟩, rfl⟩
  · rw [hsol s le_rfl h, backMid_frame (Or.inl le_rfl), upd_same]
  · rw [hsol i (by omega) h2, hsol (i - 1) (by omega) (by omega)]
    exact backMid_rec _ _ _ _ _ i h1 (by omega)

theorem backsubSlot_frame (st : St K) (s e j : Nat) (hj : j < s ∨ e < j) :
    (backsubSlot st s e).solves j = st.solves j ∧ (backsubSlot st s e).diags j = st.diags j ∧
    (backsubSlot st s e).lowers j = st.lowers j :=
  ⟨if_neg (by omega), if_neg (by omega), if_neg (by omega)⟩

/-- row `i` of the tridiagonal system of the slot `[s, e]`; `g i` stands for whatever else the row contains -/
def SlotRow (st : St K) (s e : Nat) (g x : Nat → K) (i : Nat) : Prop :=
  (if s < i then st.lowers i * x (i - 1) else 0) + st.diags i * x i + (if i < e then st.uppers i * x (i + 1) else 0) + g i
    = st.solves i

/-- the slot `[s, e]` is triangulated: no upper entries, unit diagonal behind a non-zero first pivot -/
def TriSlot (st : St K) (s e : Nat) : Prop :=
  (∀ j, s ≤ j → j < e → st.uppers j = 0) ∧ (∀ j, s < j → j ≤ e → st.diags j = 1) ∧ st.diags s ≠ 0

theorem TriSlot.up0 {st : St K} {s e : Nat} (h : TriSlot st s e) : ∀ j, s ≤ j → j < e → st.uppers j = 0 := h.1
theorem TriSlot.piv {st : St K} {s e : Nat} (h : TriSlot st s e) : st.diags s ≠ 0 := h.2.2

theorem triangSlot_tri (st : St K) (s e : Nat) (hse : s ≤ e) (hp : SlotPiv st s e) : TriSlot (triangSlot st s e) s e := by
  refine ⟨fun j h1 h2 => ?_, fun j h1 h2 => ?_, triangSlot_diag_first st s e hse ▸ hp _ le_rfl⟩
  · exact (triangSlot_spec st _ _ (by omega)).2.2.2 j h1 h2
  · exact (triangSlot_mid st _ _ (by omega) j h1 h2).1

/-- **Thomas triangulation preserves the solution set of the slot** (`g`: the branch-point terms, absent behind the first row) -/
theorem triangSlot_rows (st : St K) (s e : Nat) (hse : s ≤ e) (hpiv : SlotPiv st s e) (g x : Nat → K)
    (hg : ∀ i, s < i → i ≤ e → g i = 0) :
    (∀ i, s ≤ i → i ≤ e → SlotRow (triangSlot st s e) s e g x i) ↔ (∀ i, s ≤ i → i ≤ e → SlotRow st s e g x i) := by
  rcases Nat.eq_or_lt_of_le hse with rfl | hlt
  · rw [triangSlot_single st _ _ le_rfl]
  -- in between: the reduced rows, with the Schur pivot on the diagonal and no upper entry
  let R (i : Nat) : Prop := (if s < i then st.lowers i * x (i - 1) else 0) +
    (pe st.diags st.lowers st.uppers st.solves e (e - i)).1 * x i + g i = (pe st.diags st.lowers st.uppers st.solves e (e - i)).2
  have hR : (∀ i, s ≤ i → i ≤ e → SlotRow st s e g x i) ↔ (∀ i, s ≤ i → i ≤ e → R i) := by
    -- from the last row upwards: row `i` minus `uppers i / pivot` times the reduced row `i + 1`
    refine forall_Icc_iff (fun i => e - i) fun i h1 h2 hbelow => ?_
    rcases Nat.eq_or_lt_of_le h2 with rfl | hlt
    · simp only [SlotRow, R, lt_irrefl, if_false, add_zero, Nat.sub_self, pe]
    · have hb : R (i + 1) := hbelow (i + 1) (by omega) hlt (by omega)
      simp only [R] at hb ⊢
      rw [if_pos (show s < i + 1 by omega), Nat.add_sub_cancel, hg (i + 1) (by omega) hlt, add_zero] at hb
      rw [pe_sub _ _ _ _ e i hlt]
      simp only [SlotRow, if_pos hlt]
      have hp := hpiv (e - (i + 1)) (by omega)
      generalize pe st.diags st.lowers st.uppers st.solves e (e - (i + 1)) = P at hb hp ⊢
      exact (row_add_iff hb (-(st.uppers i / P.1))
        (by linear_combination x (i + 1) * div_mul_cancel₀ (st.uppers i) hp)).symm
  rw [hR]
  -- row by row: the first row is the reduced row, the others are the reduced rows divided by their pivots
  obtain ⟨t1, t2, -, t4⟩ := triangSlot_spec st s e hlt
  refine forall₃_congr fun i h1 h2 => ?_
  simp only [SlotRow, R]
  rw [ite_mul_eq_zero (t4 i h1), add_zero]
  rcases Nat.eq_or_lt_of_le h1 with rfl | hs
  · simp only [t1, t2, lt_irrefl, if_false]
  · obtain ⟨a1, a2, a3⟩ := triangSlot_mid st s e hlt i hs h2
    rw [a1, a2, a3, if_pos hs, if_pos hs, hg i hs h2]
    have hp := hpiv (e - i) (by omega)
    generalize pe st.diags st.lowers st.uppers st.solves e (e - i) = P at hp ⊢
    exact row_scale_iff (inv_ne_zero hp) (by linear_combination (-x i) * inv_mul_cancel₀ hp)

/-- **back substitution preserves the solution set of a triangulated slot**: afterwards the rows read `x i = solves i` -/
theorem backsubSlot_rows (st : St K) (s e : Nat) (hse : s ≤ e) (hT : TriSlot st s e) (x : Nat → K) :
    (∀ i, s ≤ i → i ≤ e → x i = (backsubSlot st s e).solves i) ↔ (∀ i, s ≤ i → i ≤ e → SlotRow st s e (fun _ => 0) x i) := by
  obtain ⟨hU, hD, hd⟩ := hT
  obtain ⟨c0, crec, -⟩ := backsubSlot_spec st s e hse
  -- from the first row downwards: row `i` minus `lowers i` times the new row `i − 1`
  refine (forall_Icc_iff (fun i => i) fun i h1 h2 habove => ?_).symm
  simp only [SlotRow, ite_mul_eq_zero (hU i h1), add_zero]
  rcases Nat.eq_or_lt_of_le h1 with rfl | hs
  · rw [if_neg (lt_irrefl _), c0, zero_add, eq_div_iff hd, mul_comm]
  · have ha : x (i - 1) = _ := habove (i - 1) (by omega) (by omega) (by omega)
    rw [if_pos hs, hD i hs h2, crec i hs h2]
    exact (row_add_iff ha (-st.lowers i) (by ring)).symm

/-- **Thomas on one slot solves the tridiagonal system**: triangulation followed by back substitution, provided no pivot vanishes -/
theorem slot_solve_correct (st : St K) (s e : Nat) (h : s ≤ e)
    (hp : ∀ k, k ≤ e - s → (pe st.diags st.lowers st.uppers st.solves e k).1 ≠ 0) :
    let x := (backsubSlot (triangSlot st s e) s e).solves
    ∀ i, s ≤ i → i ≤ e →
      (if s < i then st.lowers i * x (i - 1) else 0) + st.diags i * x i + (if i < e then st.uppers i * x (i + 1) else 0)
        = st.solves i := by
  intro x i h1 h2
  have := (triangSlot_rows st s e h hp (fun _ => 0) x fun _ _ _ => rfl).mp
    ((backsubSlot_rows _ s e h (triangSlot_tri st s e h hp) x).mp fun _ _ _ => rfl) i h1 h2
  rwa [SlotRow, add_zero] at this

end JaxleyVerif.Model.SolveJaxley
