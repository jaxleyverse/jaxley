/-
The general facts under the solver stack (`Lemmas/SolveJaxley*`, `Lemmas/AssembleJaxley`): arrays as functions with `upd`, the sums
`sumL` of the row definitions, and lists of pairs searched or filtered by a key that occurs once (`find?`, `filter`): the form in
which the schedule gives the branch point of a branch (`bpOfChild`, `bpOfParent`) and the branches of a branch point (`childrenOfBp`).
-/
import Mathlib.Data.List.Nodup
import Mathlib.Algebra.Field.Basic
import Mathlib.Algebra.Order.Field.Basic
import Mathlib.Algebra.Order.BigOperators.Group.List
import Mathlib.Tactic.Ring
import JaxleyVerif.Model.SolveJaxleySpec
import JaxleyVerif.Lemmas.Lists

namespace JaxleyVerif.Model.SolveJaxley

section keys
variable {α : Type}

theorem nodupB_iff (l : List Nat) : nodupB l = true ↔ l.Nodup := by
  induction l with
  | nil => simp [nodupB]
  | cons a l ih => simp [nodupB, ih]

theorem chainB_cons (avail : List Nat) (lv : List (Nat × Nat) × List (Nat × Nat))
    (rest : List (List (Nat × Nat) × List (Nat × Nat))) :
    chainB avail (lv :: rest) = true ↔ (∀ q ∈ lv.2, q.1 ∈ avail) ∧ chainB (lv.1.map (·.1)) rest = true := by
  simp only [chainB, Bool.and_eq_true, List.all_eq_true, List.contains_iff_mem]

theorem filter_key_nil (l : List α) (k : α → Nat) (b : Nat) (h : b ∉ l.map k) :
    l.filter (fun x => k x == b) = [] :=
  List.filter_eq_nil_iff.mpr (fun _ hy he => h (beq_iff_eq.mp he ▸ List.mem_map_of_mem hy))

theorem filter_key_of_nodup (l : List α) (k : α → Nat) (hn : (l.map k).Nodup) (a : α) (ha : a ∈ l) :
    l.filter (fun x => k x == k a) = [a] := by
  induction l with
  | nil => cases ha
  | cons x t ih =>
    rw [List.map_cons, List.nodup_cons] at hn
    rcases List.mem_cons.mp ha with rfl | h
    · rw [List.filter_cons, if_pos (beq_self_eq_true _), filter_key_nil t k _ hn.1]
    · have hx : (k x == k a) = false := beq_false_of_ne (fun he => hn.1 (he ▸ List.mem_map_of_mem h))
      rw [List.filter_cons, hx, ih hn.2 h]
      rfl

theorem find_fst_of_nodup (l : List (Nat × Nat)) (hn : (l.map (·.1)).Nodup) (q : Nat × Nat) (h : q ∈ l) :
    l.find? (·.1 == q.1) = some q :=
  find?_key_of_nodup hn h

theorem find_fst_cases (l : List (Nat × Nat)) (b : Nat) :
    (l.find? (·.1 == b)).map (·.2) = none ∨ ∃ q ∈ l, q.1 = b := by
  cases hf : l.find? (·.1 == b) with
  | none => exact Or.inl rfl
  | some q => exact Or.inr ⟨q, List.mem_of_find?_eq_some hf, by simpa using List.find?_some hf⟩

theorem find_fst_iff (l : List (Nat × Nat)) (hn : (l.map (·.1)).Nodup) (b p : Nat) :
    (l.find? (·.1 == b)).map (·.2) = some p ↔ (b, p) ∈ l := by
  constructor
  · intro h
    obtain ⟨q, hf, rfl⟩ := Option.map_eq_some_iff.mp h
    have h1 : q.1 = b := by simpa using List.find?_some hf
    exact h1 ▸ List.mem_of_find?_eq_some hf
  · intro h
    rw [find_fst_of_nodup l hn (b, p) h]
    rfl

theorem mem_fst_of_snd (l : List (Nat × Nat)) (c p : Nat) : c ∈ (l.filter (·.2 == p)).map (·.1) ↔ (c, p) ∈ l := by
  simp only [List.mem_map, List.mem_filter, beq_iff_eq]
  exact ⟨fun ⟨q, ⟨hq, h2⟩, h1⟩ => h1 ▸ h2 ▸ hq, fun hq => ⟨(c, p), ⟨hq, rfl⟩, rfl⟩⟩

theorem bpOfParent_cases (sc : Sched) (b : Nat) : bpOfParent sc b = none ∨ ∃ q ∈ pairsP sc, q.1 = b :=
  find_fst_cases _ b

theorem bpOfChild_cases (sc : Sched) (b : Nat) : bpOfChild sc b = none ∨ ∃ q ∈ pairsC sc, q.1 = b :=
  find_fst_cases _ b

theorem bpOfParent_iff {sc : Sched} (hn : ((pairsP sc).map (·.1)).Nodup) (b p : Nat) :
    bpOfParent sc b = some p ↔ (b, p) ∈ pairsP sc :=
  find_fst_iff _ hn b p

theorem bpOfChild_iff {sc : Sched} (hn : ((pairsC sc).map (·.1)).Nodup) (b p : Nat) :
    bpOfChild sc b = some p ↔ (b, p) ∈ pairsC sc :=
  find_fst_iff _ hn b p

theorem mem_childrenOfBp (sc : Sched) (c p : Nat) : c ∈ childrenOfBp sc p ↔ (c, p) ∈ pairsC sc :=
  mem_fst_of_snd _ c p

theorem not_mem_middle {a b : α} {l₁ l₂ : List α} (hne : a ≠ b) (h : a ∉ l₁ ++ l₂) : a ∉ l₁ ++ b :: l₂ :=
  fun hin => h <| (List.mem_append.mp hin).elim (List.mem_append_left _)
    fun h' => List.mem_append_right _ ((List.mem_cons.mp h').resolve_left hne)

theorem mem_zip_of_mem_right (keys : List Nat) (l : List α) (hlen : keys.length = l.length) (e : α)
    (he : e ∈ l) : ∃ b, (b, e) ∈ keys.zip l := by
  have hl : l = (keys.zip l).map (·.2) := (List.map_snd_zip hlen.ge).symm
  rw [hl] at he
  obtain ⟨p, hp, rfl⟩ := List.mem_map.mp he
  exact ⟨p.1, hp⟩

theorem mem_zip_of_mem_left (keys : List Nat) (l : List α) (hlen : keys.length = l.length) (b : Nat)
    (hb : b ∈ keys) : ∃ e, (b, e) ∈ keys.zip l := by
  have hl : keys = (keys.zip l).map (·.1) := (List.map_fst_zip hlen.le).symm
  rw [hl] at hb
  obtain ⟨p, hp, rfl⟩ := List.mem_map.mp hb
  exact ⟨p.2, hp⟩

end keys

section upd
variable {K : Type}

theorem upd_same (f : Nat → K) (i : Nat) (v : K) : upd f i v i = v := if_pos rfl

theorem upd_ne {f : Nat → K} {i j : Nat} {v : K} (h : j ≠ i) : upd f i v j = f j := if_neg h

variable [Field K]

theorem upd_zero_of_zero (f : Nat → K) (i j : Nat) (h : f j = 0) : upd f i 0 j = 0 := by
  unfold upd; split
  · rfl
  · exact h

theorem upd_zero_snoc {α : Type} (w : Nat → K) (key : α → Nat) (a : α) {L : List α} (h : ∀ b ∈ L, w (key b) = 0) :
    ∀ b ∈ L ++ [a], upd w (key a) 0 (key b) = 0 := by
  intro b hb
  rcases List.mem_append.mp hb with hb | hb
  · exact upd_zero_of_zero _ _ _ (h b hb)
  · rw [List.mem_singleton.mp hb]
    exact upd_same _ _ _

theorem upd_zero_notMem {α : Type} (w : Nat → K) (key : α → Nat) {U l₁ l₂ : List α} {a : α}
    (h : ∀ b ∈ U, b ∉ l₁ ++ a :: l₂ → w (key b) = 0) : ∀ b ∈ U, b ∉ l₁ ++ l₂ → upd w (key a) 0 (key b) = 0 := by
  intro b hb hn
  by_cases he : b = a
  · rw [he]
    exact upd_same _ _ _
  · exact upd_zero_of_zero _ _ _ (h b hb (not_mem_middle he hn))

end upd

section sums
variable {K : Type} [Field K]

theorem sumL_nil' : sumL ([] : List K) = 0 := rfl
theorem sumL_cons (a : K) (l : List K) : sumL (a :: l) = a + sumL l := rfl
theorem sumL_eq_sum (l : List K) : sumL l = l.sum := rfl

theorem sumL_append (l l' : List K) : sumL (l ++ l') = sumL l + sumL l' := List.sum_append

theorem sumL_zero {α : Type} (l : List α) (f : α → K) (h : ∀ a ∈ l, f a = 0) : sumL (l.map f) = 0 :=
  List.sum_eq_zero (fun x hx => by obtain ⟨a, ha, rfl⟩ := List.mem_map.mp hx; exact h a ha)

theorem sumL_congr {α : Type} {l : List α} {f g : α → K} (h : ∀ a ∈ l, f a = g a) : sumL (l.map f) = sumL (l.map g) := by
  rw [List.map_congr_left h]

theorem sumL_mul_left {α : Type} (c : K) (l : List α) (f : α → K) :
    c * sumL (l.map f) = sumL (l.map (fun a => c * f a)) := by
  induction l with
  | nil => exact mul_zero c
  | cons a t ih => simp only [List.map_cons, sumL_cons, mul_add, ih]

theorem sumL_mul_right {α : Type} (c : K) (l : List α) (f : α → K) :
    sumL (l.map f) * c = sumL (l.map (fun a => f a * c)) := by
  induction l with
  | nil => exact zero_mul c
  | cons a t ih => simp only [List.map_cons, sumL_cons, add_mul, ih]

theorem sumL_pull {α : Type} (c : K) (l : List α) (g f : α → K) :
    sumL (l.map (fun e => c * g e * f e)) = c * sumL (l.map (fun e => g e * f e)) := by
  rw [sumL_mul_left]
  exact sumL_congr (fun e _ => mul_assoc _ _ _)

theorem sumL_filter_split {α : Type} (l : List α) (R P Q : α → Bool) (f : α → K)
    (hR : ∀ a ∈ l, R a = (P a || Q a)) (hd : ∀ a ∈ l, ¬ (P a = true ∧ Q a = true)) :
    sumL ((l.filter R).map f) = sumL ((l.filter P).map f) + sumL ((l.filter Q).map f) := by
  induction l with
  | nil => exact (add_zero (0 : K)).symm
  | cons a t ih =>
    rw [List.forall_mem_cons] at hR hd
    have ih' := ih hR.2 hd.2
    cases hp : P a <;> cases hq : Q a <;>
      simp only [List.filter_cons, hR.1, hp, hq, Bool.or_self, Bool.or_true, Bool.true_or, Bool.false_eq_true, if_false,
        if_true, List.map_cons, sumL_cons, ih']
    · exact add_left_comm _ _ _          -- ¬P, Q
    · exact (add_assoc _ _ _).symm       -- P, ¬Q
    · exact absurd ⟨hp, hq⟩ hd.1          -- P, Q

/-- a guarded product is a sum each of whose terms witnesses the guard -/
theorem ite_mul_sumL {α : Type} (c : Prop) [Decidable c] (A y : K) (l : List α) (f g : α → K)
    (hA : c → A = sumL (l.map f)) (h : ∀ a ∈ l, c ∧ f a * y = g a) : (if c then A * y else 0) = sumL (l.map g) := by
  by_cases hc : c
  · rw [if_pos hc, hA hc, sumL_mul_right]
    exact sumL_congr (fun a ha => (h a ha).2)
  · rw [if_neg hc, List.eq_nil_iff_forall_not_mem.mpr (fun a ha => hc (h a ha).1)]
    rfl

theorem sumL_group {α : Type} (Z : List (Nat × α)) (f : Nat × α → K) : ∀ (C : List Nat), C.Nodup →
    sumL (C.map (fun c => sumL ((Z.filter (fun p => p.1 == c)).map f))) =
      sumL ((Z.filter (fun p => C.contains p.1)).map f) := by
  intro C
  induction C with
  | nil => intro _; simp [sumL_nil']
  | cons c t ih =>
    intro hn
    simp only [List.nodup_cons] at hn
    rw [List.map_cons, sumL_cons, ih hn.2]
    symm
    -- `contains (c :: t)` is `== c` or `contains t`, and not both: `c ∉ t`
    apply sumL_filter_split
    · intro a _
      rw [List.contains_cons]
    · intro a _ ⟨h1, h2⟩
      simp only [beq_iff_eq] at h1
      rw [List.contains_iff_mem, h1] at h2
      exact hn.1 h2

theorem sumL_zip_filter' {α : Type} (keys : List Nat) (l : List α) (hlen : keys.length = l.length)
    (P : Nat × α → Bool) (f : Nat × α → K) (Q : α → Bool) (φ : α → K)
    (hP : ∀ p ∈ keys.zip l, P p = Q p.2) (hf : ∀ p ∈ keys.zip l, f p = φ p.2) :
    sumL (((keys.zip l).filter P).map f) = sumL ((l.filter Q).map φ) := by
  have h1 : (keys.zip l).filter P = (keys.zip l).filter (fun p => Q p.2) := List.filter_congr hP
  have hl : l = (keys.zip l).map (·.2) := (List.map_snd_zip hlen.ge).symm
  rw [h1]
  conv_rhs => rw [hl, List.filter_map, List.map_map]
  apply sumL_congr
  intro p hp
  exact hf p (List.mem_filter.mp hp).1

theorem sumL_zip_filter {α : Type} (keys : List Nat) (l : List α) (hlen : keys.length = l.length) (b : Nat)
    (Q : α → Bool) (φ : α → K) (h : ∀ p ∈ keys.zip l, (p.1 == b) = Q p.2) :
    sumL (((keys.zip l).filter (fun p => p.1 == b)).map (fun p => φ p.2)) = sumL ((l.filter Q).map φ) :=
  sumL_zip_filter' keys l hlen _ _ Q φ h (fun _ _ => rfl)

theorem sumL_upd_notin {α : Type} (l : List α) (key : α → Nat) (g : α → K) (w : Nat → K) (b : Nat) (v : K)
    (h : b ∉ l.map key) :
    sumL (l.map (fun a => upd w b v (key a) * g a)) = sumL (l.map (fun a => w (key a) * g a)) := by
  apply sumL_congr
  intro a ha
  have : key a ≠ b := fun he => h (he ▸ List.mem_map_of_mem ha)
  rw [upd_ne this]

theorem sumL_upd_zero {α : Type} (l : List α) (key : α → Nat) (g : α → K) (w : Nat → K) (b : Nat)
    (hn : (l.map key).Nodup) (a : α) (ha : a ∈ l) (hk : key a = b) :
    sumL (l.map (fun a' => upd w b 0 (key a') * g a')) = sumL (l.map (fun a' => w (key a') * g a')) - w b * g a := by
  induction l with
  | nil => cases ha
  | cons x t ih =>
    simp only [List.map_cons, List.nodup_cons] at hn
    simp only [List.map_cons, sumL_cons]
    -- the key `b` occurs once: at the head, and then not in the tail, or in the tail
    by_cases hx : key x = b
    · have hnt : b ∉ t.map key := hx ▸ hn.1
      have hax : a = x := by
        rcases List.mem_cons.mp ha with h | h
        · exact h
        · exact absurd (hk ▸ List.mem_map_of_mem h) hnt
      rw [sumL_upd_notin t key g w b 0 hnt, hx, upd_same, hax]
      ring
    · have hat : a ∈ t := by
        rcases List.mem_cons.mp ha with h | h
        · exact absurd (h ▸ hk) hx
        · exact h
      rw [ih hn.2 hat, upd_ne hx]
      ring

variable [LinearOrder K] [IsStrictOrderedRing K]

theorem sumL_nonneg {α : Type} (l : List α) (f : α → K) (h : ∀ a ∈ l, 0 ≤ f a) : 0 ≤ sumL (l.map f) :=
  List.sum_nonneg (fun x hx => by obtain ⟨a, ha, rfl⟩ := List.mem_map.mp hx; exact h a ha)

theorem sumL_nonpos {α : Type} (l : List α) (f : α → K) (h : ∀ a ∈ l, f a ≤ 0) : sumL (l.map f) ≤ 0 := by
  induction l with
  | nil => exact le_refl _
  | cons a t ih =>
    simp only [List.map_cons, sumL_cons]
    exact add_nonpos (h a List.mem_cons_self) (ih (fun a' ha' => h a' (List.mem_cons_of_mem _ ha')))

theorem sumL_pos {α : Type} (l : List α) (f : α → K) (hne : l ≠ []) (h : ∀ a ∈ l, 0 < f a) : 0 < sumL (l.map f) :=
  List.sum_pos _ (fun x hx => by obtain ⟨a, ha, rfl⟩ := List.mem_map.mp hx; exact h a ha) (by simpa using hne)

end sums
end JaxleyVerif.Model.SolveJaxley
