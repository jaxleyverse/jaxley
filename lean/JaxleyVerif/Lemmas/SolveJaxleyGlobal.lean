/-
Global correctness of the code-shaped model of the custom branched tridiagonal solver (`Model.SolveJaxley.solve`):
for every well-formed indexer + level schedule and every array content whose pivots do not vanish, the returned arrays
solve the linear system the input arrays denote (`solve_correct`), and they are the only solution (`solve_unique`).

Every step of the two passes preserves the solution set (`SameSol`: `Sat … (T st) x z ↔ Sat … st x z` for ALL `x z`) and moves an
invariant on, indexed by how far the pass has come (`Inv1` for the triangulation, `Inv2` for the back substitution); the final state is
diagonal and is read off.  Both passes are proved in three layers: one branch (one row operation), one step of a level (a fold over
its branches), one level.  What the schedule says of a pair is `WF.child` / `WF.parent`, of a level `LvOK`.
Both invariants speak of the levels ABOVE the one a pass has come to (`above`), which is what `chainB` speaks of: the triangulation
runs towards the roots and has them still to do (`Inv1` lists what is left), the back substitution runs away from the roots and has
them done (`Inv2` lists what is done).  No fact about the deeper levels is used.
-/
import Mathlib.Algebra.Field.Rat
import JaxleyVerif.Lemmas.SolveJaxley

namespace JaxleyVerif.Model.SolveJaxley

abbrev Lv := List (Nat × Nat) × List (Nat × Nat)
/-- the (child, branch point) pairs of a list of levels -/
def chs (L : List Lv) : List (Nat × Nat) := L.flatMap (·.1)
/-- the (parent, branch point) pairs of a list of levels -/
def prs (L : List Lv) : List (Nat × Nat) := L.flatMap (·.2)

@[simp] theorem chs_nil : chs [] = [] := rfl
@[simp] theorem prs_nil : prs [] = [] := rfl
@[simp] theorem chs_cons (lv : Lv) (L : List Lv) : chs (lv :: L) = lv.1 ++ chs L := List.flatMap_cons
@[simp] theorem prs_cons (lv : Lv) (L : List Lv) : prs (lv :: L) = lv.2 ++ prs L := List.flatMap_cons
@[simp] theorem chs_append (L L' : List Lv) : chs (L ++ L') = chs L ++ chs L' := List.flatMap_append
@[simp] theorem prs_append (L L' : List Lv) : prs (L ++ L') = prs L ++ prs L' := List.flatMap_append
theorem chs_snoc (L : List Lv) (lv : Lv) : chs (L ++ [lv]) = chs L ++ lv.1 := by simp
theorem prs_snoc (L : List Lv) (lv : Lv) : prs (L ++ [lv]) = prs L ++ lv.2 := by simp

/-- the branches above a level: the roots and the children of the levels `pre` (those between it and the roots) -/
def above (sc : Sched) (pre : List Lv) : List Nat := sc.roots ++ (chs pre).map (·.1)

theorem above_nil (sc : Sched) : above sc [] = sc.roots := List.append_nil _

theorem above_snoc (sc : Sched) (pre : List Lv) (lv : Lv) : above sc (pre ++ [lv]) = above sc pre ++ lv.1.map (·.1) := by
  rw [above, chs_snoc, List.map_append, ← List.append_assoc]
  rfl

section schedule
variable {ix : Idx} {sc : Sched}

/-- `wfB` as propositions -/
structure WF (ix : Idx) (sc : Sched) : Prop where
  slot : ∀ b ∈ branchesOf sc, ix.first b ≤ ix.last b ∧ ix.last b ≤ ix.paddedLast b
  disj : ∀ b ∈ branchesOf sc, ∀ b' ∈ branchesOf sc, b ≠ b' → ∀ j, ix.first b ≤ j → j ≤ ix.paddedLast b →
    (j < ix.first b' ∨ ix.paddedLast b' < j)
  ndB : (branchesOf sc).Nodup
  ndP1 : ((pairsP sc).map (·.1)).Nodup
  ndP2 : ((pairsP sc).map (·.2)).Nodup
  pc : pairsC sc = chs (levels sc)
  pp : pairsP sc = prs (levels sc)
  mtch : ∀ lv ∈ levels sc, ∀ c ∈ lv.1, ∃ q ∈ lv.2, q.2 = c.2
  chain : chainB sc.roots (levels sc) = true

theorem wf_unpack (h : wfB ix sc = true) : WF ix sc := by
  unfold wfB at h
  simp only [Bool.and_eq_true, List.all_eq_true, beq_iff_eq, decide_eq_true_eq, Bool.or_eq_true, nodupB_iff] at h
  obtain ⟨⟨⟨⟨⟨⟨⟨hlen, hslot⟩, hdisj⟩, hnb⟩, hn1⟩, hn2⟩, hm⟩, hc⟩ := h
  refine ⟨?_, ?_, hnb, hn1, hn2, ?_, ?_, ?_, hc⟩
  · intro b hb
    have := hslot b hb
    simp only [Idx.first, Idx.last, Idx.paddedLast]
    omega
  · intro b hb b' hb' hne j h1 h2
    have s1 := hslot b hb
    have s2 := hslot b' hb'
    have := hdisj b hb b' hb'
    simp only [Idx.first, Idx.paddedLast] at *
    omega
  · simp only [pairsC, chs, levels, List.flatMap_def]
    rw [List.map_fst_zip (by omega)]
  · simp only [pairsP, prs, levels, List.flatMap_def]
    rw [List.map_snd_zip (by omega)]
  · intro lv hlv
    have := hm lv hlv
    simp only [levelMatchB, Bool.and_eq_true, List.all_eq_true, List.any_eq_true, beq_iff_eq] at this
    exact this.1

/-- the induction peels the first level, whose children become `avail` for the rest -/
theorem chain_avail : ∀ (pre : List Lv) (avail : List Nat) (lv : Lv) (post : List Lv),
    chainB avail (pre ++ lv :: post) = true →
    ∀ q ∈ prs pre ++ lv.2, q.1 ∈ avail ++ (chs pre).map (·.1) := by
  intro pre
  induction pre with
  | nil =>
    intro avail lv post h q hq
    rw [List.nil_append, chainB_cons] at h
    exact List.mem_append_left _ (h.1 q hq)
  | cons l0 pre ih =>
    intro avail lv post h q hq
    rw [List.cons_append, chainB_cons] at h
    rw [prs_cons, List.append_assoc, List.mem_append] at hq
    rcases hq with hq | hq
    · exact List.mem_append_left _ (h.1 q hq)
    · rw [chs_cons, List.map_append]
      exact List.mem_append_right _ (ih _ lv post h.2 q hq)

theorem match_chs (L : List Lv) (hm : ∀ lv ∈ L, (∀ c ∈ lv.1, ∃ q ∈ lv.2, q.2 = c.2)) :
    ∀ c ∈ chs L, ∃ q ∈ prs L, q.2 = c.2 := by
  intro c hc
  simp only [chs, prs, List.mem_flatMap] at hc ⊢
  obtain ⟨lv, hlv, hc⟩ := hc
  obtain ⟨q, hq, he⟩ := hm lv hlv c hc
  exact ⟨q, ⟨lv, hlv, hq⟩, he⟩

/-- what a well-formed schedule says about one level `lv` and the levels `pre` above it (those between it and the roots) -/
structure LvOK (sc : Sched) (pre : List Lv) (lv : Lv) : Prop where
  cmem : ∀ c ∈ lv.1, c ∈ pairsC sc
  pmem : ∀ q ∈ lv.2, q ∈ pairsP sc
  cnd : (lv.1.map (·.1)).Nodup
  pnd : (lv.2.map (·.1)).Nodup
  cpar : ∀ c ∈ lv.1, ∃ q ∈ lv.2, q.2 = c.2
  pup : ∀ q ∈ prs pre ++ lv.2, q.1 ∈ above sc pre
  cnew : ∀ c ∈ lv.1, c.1 ∉ above sc pre
  pch : ∀ q ∈ lv.2, ∀ c ∈ chs pre, c.2 ≠ q.2

theorem WF.ndR (h : WF ix sc) : sc.roots.Nodup := (List.nodup_append.mp h.ndB).1

theorem WF.above_levels (h : WF ix sc) : above sc (levels sc) = branchesOf sc := by rw [above, ← h.pc, branchesOf]

theorem WF.ndC (h : WF ix sc) : ((pairsC sc).map (·.1)).Nodup := (List.nodup_append.mp h.ndB).2.1

theorem WF.root_not_child (h : WF ix sc) {r : Nat} (hr : r ∈ sc.roots) :
    r ∉ (pairsC sc).map (·.1) :=
  fun hc => (List.nodup_append.mp h.ndB).2.2 r hr r hc rfl

theorem slot_unique (hwf : WF ix sc) {b b' : Nat} (hb : b ∈ branchesOf sc)
    (hb' : b' ∈ branchesOf sc) {j : Nat} (h1 : ix.first b ≤ j) (h2 : j ≤ ix.paddedLast b) (h3 : ix.first b' ≤ j)
    (h4 : j ≤ ix.paddedLast b') : b = b' := by
  by_contra hne
  have := hwf.disj b hb b' hb' hne j h1 h2
  omega

theorem childrenOfBp_nodup (h : WF ix sc) (p : Nat) : (childrenOfBp sc p).Nodup :=
  List.Nodup.sublist (List.Sublist.map _ List.filter_sublist) h.ndC

theorem lvOK_of_wf (h : WF ix sc) {pre : List Lv} {lv : Lv} {post : List Lv}
    (hd : levels sc = pre ++ lv :: post) : LvOK sc pre lv := by
  -- `pairsC`, `pairsP` and the branches split as pre ++ lv ++ post; each list of keys is duplicate-free, so its three parts are
  -- and they are disjoint
  have hpc : pairsC sc = chs pre ++ (lv.1 ++ chs post) := by rw [h.pc, hd, chs_append, chs_cons]
  have hpp : pairsP sc = prs pre ++ (lv.2 ++ prs post) := by rw [h.pp, hd, prs_append, prs_cons]
  have hlv : lv ∈ levels sc := hd ▸ List.mem_append_right _ List.mem_cons_self
  have hnB : (above sc pre ++ lv.1.map (·.1) ++ (chs post).map (·.1)).Nodup := by
    have := h.ndB
    rwa [branchesOf, hpc, List.map_append, List.map_append, ← List.append_assoc, ← List.append_assoc] at this
  obtain ⟨-, hcnd, hcnew⟩ := List.nodup_append.mp (List.nodup_append.mp hnB).1
  have hn1 := h.ndP1
  have hn2 := h.ndP2
  rw [hpp, List.map_append, List.map_append] at hn1 hn2
  refine
    { cmem := fun c hc => hpc ▸ List.mem_append_right _ (List.mem_append_left _ hc)
      pmem := fun q hq => hpp ▸ List.mem_append_right _ (List.mem_append_left _ hq)
      cnd := hcnd, pnd := (List.nodup_append.mp (List.nodup_append.mp hn1).2.1).1, cpar := h.mtch lv hlv
      pup := chain_avail pre sc.roots lv post (hd ▸ h.chain)
      cnew := fun c hc hin => hcnew c.1 hin c.1 (List.mem_map_of_mem hc) rfl
      pch := fun q hq c hc he => ?_ }
  -- the parent of the branch point of `c` is in a level above (`mtch`), so it is not `q`: a branch point has one parent
  obtain ⟨q', hq', he'⟩ := match_chs pre (fun l hl => h.mtch l (hd ▸ List.mem_append_left _ hl)) c hc
  exact (List.nodup_append.mp hn2).2.2 q'.2 (List.mem_map_of_mem hq') q.2
    (List.mem_append_left _ (List.mem_map_of_mem hq)) (he'.trans he)

theorem WF.child (h : WF ix sc) {c : Nat × Nat} (hc : c ∈ pairsC sc) :
    c.1 ∈ branchesOf sc ∧ bpOfChild sc c.1 = some c.2 ∧ c.1 ∈ childrenOfBp sc c.2 :=
  ⟨List.mem_append_right _ (List.mem_map_of_mem hc), (bpOfChild_iff h.ndC _ _).mpr hc, (mem_childrenOfBp sc _ _).mpr hc⟩

theorem WF.parent (h : WF ix sc) {q : Nat × Nat} (hq : q ∈ pairsP sc) :
    q.1 ∈ branchesOf sc ∧ bpOfParent sc q.1 = some q.2 ∧ (pairsP sc).filter (·.2 == q.2) = [q] := by
  refine ⟨?_, (bpOfParent_iff h.ndP1 _ _).mpr hq, filter_key_of_nodup _ (·.2) h.ndP2 q hq⟩
  -- a parent is a root or a child of a level above: found through its level
  have hq' := hq
  rw [h.pp] at hq'
  obtain ⟨lv, hlv, hq'⟩ := List.mem_flatMap.mp hq'
  obtain ⟨pre, post, hd⟩ := List.mem_iff_append.mp hlv
  rcases List.mem_append.mp ((lvOK_of_wf h hd).pup q (List.mem_append_right _ hq')) with hr | hc
  · exact List.mem_append_left _ hr
  · refine List.mem_append_right _ (List.map_subset _ (fun c hc => ?_) hc)
    rw [h.pc, hd, chs_append]
    exact List.mem_append_left _ hc

end schedule

def SlotEq {K : Type} (ix : Idx) (st st' : St K) (b : Nat) : Prop :=
  ∀ j, ix.first b ≤ j → j ≤ ix.paddedLast b →
    st'.diags j = st.diags j ∧ st'.lowers j = st.lowers j ∧ st'.uppers j = st.uppers j ∧ st'.solves j = st.solves j

theorem SlotEq.diags {K : Type} {ix : Idx} {st st' : St K} {b : Nat} (h : SlotEq ix st st' b) (j : Nat) (h1 : ix.first b ≤ j)
    (h2 : j ≤ ix.paddedLast b) : st'.diags j = st.diags j := (h j h1 h2).1
theorem SlotEq.lowers {K : Type} {ix : Idx} {st st' : St K} {b : Nat} (h : SlotEq ix st st' b) (j : Nat) (h1 : ix.first b ≤ j)
    (h2 : j ≤ ix.paddedLast b) : st'.lowers j = st.lowers j := (h j h1 h2).2.1
theorem SlotEq.uppers {K : Type} {ix : Idx} {st st' : St K} {b : Nat} (h : SlotEq ix st st' b) (j : Nat) (h1 : ix.first b ≤ j)
    (h2 : j ≤ ix.paddedLast b) : st'.uppers j = st.uppers j := (h j h1 h2).2.2.1

variable {K : Type} [Field K]

section passes
variable {ix : Idx} {sc : Sched}

/-- the coefficient of the branch-point unknown in the first row of `b`: `condC b` if `b` hangs on a branch point -/
def cC (sc : Sched) (s : St K) (b : Nat) : K := match bpOfChild sc b with | some _ => s.condC b | none => 0
/-- … and in its last row: `condP b` if a branch point hangs on `b` -/
def cP (sc : Sched) (s : St K) (b : Nat) : K := match bpOfParent sc b with | some _ => s.condP b | none => 0
/-- the branch-point term of the first row of `b` -/
def exC (sc : Sched) (st : St K) (z : Nat → K) (b : Nat) : K :=
  match bpOfChild sc b with | some p => st.condC b * z p | none => 0
/-- the branch-point term of the last row of `b` -/
def exP (sc : Sched) (st : St K) (z : Nat → K) (b : Nat) : K :=
  match bpOfParent sc b with | some p => st.condP b * z p | none => 0
/-- the branch-point terms of row `i` of branch `b` -/
def extra (ix : Idx) (sc : Sched) (st : St K) (z : Nat → K) (b i : Nat) : K :=
  (if i = ix.first b then exC sc st z b else 0) + (if i = ix.last b then exP sc st z b else 0)

theorem rowComp_eq (ix : Idx) (sc : Sched) (st : St K) (x z : Nat → K) (b i : Nat) :
    rowComp ix sc st x z b i =
      (if ix.first b < i then st.lowers i * x (i - 1) else 0) + st.diags i * x i
      + (if i < ix.paddedLast b then st.uppers i * x (i + 1) else 0) + extra ix sc st z b i :=
  add_assoc _ _ _

/-- the first row of `b` contains no branch-point unknown -/
def FirstFree (sc : Sched) (st : St K) (b : Nat) : Prop := st.condC b = 0 ∨ bpOfChild sc b = none
/-- the last row of `b` contains no branch-point unknown -/
def LastFree (sc : Sched) (st : St K) (b : Nat) : Prop := st.condP b = 0 ∨ bpOfParent sc b = none

theorem exC_eq (sc : Sched) (st : St K) (z : Nat → K) (b : Nat) :
    exC sc st z b = st.condC b * (bpOfChild sc b).elim 0 z := by
  unfold exC
  cases bpOfChild sc b
  · exact (mul_zero _).symm
  · rfl

theorem exP_eq (sc : Sched) (st : St K) (z : Nat → K) (b : Nat) :
    exP sc st z b = st.condP b * (bpOfParent sc b).elim 0 z := by
  unfold exP
  cases bpOfParent sc b
  · exact (mul_zero _).symm
  · rfl

theorem cC_of_some {s : St K} {b p : Nat} (h : bpOfChild sc b = some p) : cC sc s b = s.condC b := by rw [cC, h]

theorem cP_of_some {s : St K} {b p : Nat} (h : bpOfParent sc b = some p) : cP sc s b = s.condP b := by rw [cP, h]

theorem exC_one (sc : Sched) (st : St K) (b : Nat) : exC sc st (fun _ => 1) b = cC sc st b := by
  unfold exC cC
  cases bpOfChild sc b
  · rfl
  · exact mul_one _

theorem exP_one (sc : Sched) (st : St K) (b : Nat) : exP sc st (fun _ => 1) b = cP sc st b := by
  unfold exP cP
  cases bpOfParent sc b
  · rfl
  · exact mul_one _

theorem exC_zero {st : St K} {z : Nat → K} {b : Nat} (h : FirstFree sc st b) :
    exC sc st z b = 0 := by
  rw [exC_eq]
  rcases h with h | h
  · rw [h, zero_mul]
  · rw [h]
    exact mul_zero _

theorem exP_zero {st : St K} {z : Nat → K} {b : Nat} (h : LastFree sc st b) :
    exP sc st z b = 0 := by
  rw [exP_eq]
  rcases h with h | h
  · rw [h, zero_mul]
  · rw [h]
    exact mul_zero _

theorem rowComp_congr (ix : Idx) (sc : Sched) (st st' : St K) (x z : Nat → K) (b i : Nat)
    (hl : st'.lowers i = st.lowers i) (hd : st'.diags i = st.diags i) (hu : st'.uppers i = st.uppers i)
    (h1 : st'.condC b = st.condC b) (h2 : st'.condP b = st.condP b) :
    rowComp ix sc st' x z b i = rowComp ix sc st x z b i := by
  unfold rowComp
  rw [hl, hd, hu, h1, h2]

theorem rowBp_congr (st st' : St K) (x z : Nat → K) (p : Nat) (hD : st'.bpDiags = st.bpDiags)
    (hP : st'.weightP = st.weightP) (hC : st'.weightC = st.weightC) :
    rowBp ix sc st' x z p = rowBp ix sc st x z p := by
  unfold rowBp
  rw [hD, hP, hC]

theorem rowComp_slotRow (ix : Idx) (sc : Sched) (st : St K) (x z : Nat → K) (b i : Nat) :
    rowComp ix sc st x z b i = st.solves i ↔ SlotRow st (ix.first b) (ix.paddedLast b) (extra ix sc st z b) x i := by
  rw [rowComp_eq, SlotRow]

abbrev Tri (ix : Idx) (st : St K) (b : Nat) : Prop := TriSlot st (ix.first b) (ix.paddedLast b)

/-- the rows of the slot of `b` are `x i = solves i` -/
def Diag (ix : Idx) (sc : Sched) (st : St K) (b : Nat) : Prop :=
  (∀ j, ix.first b ≤ j → j ≤ ix.paddedLast b → st.diags j = 1) ∧
  (∀ j, ix.first b < j → j ≤ ix.paddedLast b → st.lowers j = 0) ∧
  (∀ j, ix.first b ≤ j → j < ix.paddedLast b → st.uppers j = 0) ∧
  FirstFree sc st b ∧ LastFree sc st b

theorem rowComp_diag (ix : Idx) (sc : Sched) (st : St K) (x z : Nat → K) (b i : Nat) (h : Diag ix sc st b)
    (h1 : ix.first b ≤ i) (h2 : i ≤ ix.paddedLast b) : rowComp ix sc st x z b i = x i := by
  obtain ⟨a1, a2, a3, a4, a5⟩ := h
  rw [rowComp_eq, ite_mul_eq_zero fun h => a2 i h h2, ite_mul_eq_zero (a3 i h1), a1 i h1 h2, extra, exC_zero a4, exP_zero a5]
  simp only [ite_self, add_zero, zero_add, one_mul]

/-- a step that leaves the compartment rows alone may use them when it exchanges the branch-point rows … -/
theorem sat_congr_bp {st st' : St K} {x z : Nat → K}
    (hc : ∀ b i, rowComp ix sc st' x z b i = rowComp ix sc st x z b i) (hs : st'.solves = st.solves)
    (h : (∀ b ∈ branchesOf sc, ∀ i, ix.first b ≤ i → i ≤ ix.paddedLast b → rowComp ix sc st x z b i = st.solves i) →
      ∀ q ∈ pairsP sc, (rowBp ix sc st' x z q.2 = st'.bpSolves q.2 ↔ rowBp ix sc st x z q.2 = st.bpSolves q.2)) :
    Sat ix sc st' x z ↔ Sat ix sc st x z := by
  unfold Sat
  simp only [hc, hs]
  exact and_congr_right fun hrows => forall₂_congr (h hrows)

/-- … and a step that leaves the branch-point rows alone may use them when it exchanges the rows of a slot -/
theorem sat_congr_comp {st st' : St K} {x z : Nat → K}
    (hb : ∀ p, rowBp ix sc st' x z p = rowBp ix sc st x z p) (hs : st'.bpSolves = st.bpSolves)
    (h : (∀ q ∈ pairsP sc, rowBp ix sc st x z q.2 = st.bpSolves q.2) → ∀ b ∈ branchesOf sc,
      ((∀ i, ix.first b ≤ i → i ≤ ix.paddedLast b → rowComp ix sc st' x z b i = st'.solves i) ↔
        (∀ i, ix.first b ≤ i → i ≤ ix.paddedLast b → rowComp ix sc st x z b i = st.solves i))) :
    Sat ix sc st' x z ↔ Sat ix sc st x z := by
  unfold Sat
  simp only [hb, hs]
  exact and_congr_left fun hbps => forall₂_congr (h hbps)

/-- the system denoted by `b` has the same solutions as the one denoted by `a`: what every step of the solver is shown to keep -/
def SameSol (ix : Idx) (sc : Sched) (a b : St K) : Prop := ∀ x z, Sat ix sc b x z ↔ Sat ix sc a x z

theorem SameSol.refl (ix : Idx) (sc : Sched) (a : St K) : SameSol ix sc a a := fun _ _ => Iff.rfl

theorem SameSol.trans {a b c : St K} (h1 : SameSol ix sc a b) (h2 : SameSol ix sc b c) :
    SameSol ix sc a c := fun x z => (h2 x z).trans (h1 x z)

theorem triangSlot_slotEq (hwf : WF ix sc) (s : St K) {b b' : Nat} (hb : b ∈ branchesOf sc)
    (hb' : b' ∈ branchesOf sc) (hne : b' ≠ b) : SlotEq ix s (triangSlot s (ix.first b) (ix.paddedLast b)) b' :=
  fun j j1 j2 => triangSlot_frame s _ _ j (hwf.disj b' hb' b hb hne j j1 j2)

theorem triangSlot_sat (hwf : WF ix sc) (st : St K) (b : Nat)
    (hb : b ∈ branchesOf sc) (hpiv : SlotPiv st (ix.first b) (ix.paddedLast b))
    (hcp : LastFree sc st b) :
    SameSol ix sc st (triangSlot st (ix.first b) (ix.paddedLast b)) := by
  intro x z
  have B := triangSlot_bp st (ix.first b) (ix.paddedLast b)
  have hs := hwf.slot b hb
  refine sat_congr_comp (fun p => rowBp_congr st _ x z p B.bpDiags B.weightP B.weightC) B.bpSolves fun _ b' hb' => ?_
  by_cases hbb : b' = b
  · subst hbb
    have hex : extra ix sc (triangSlot st (ix.first b') (ix.paddedLast b')) z b' = extra ix sc st z b' := by
      funext i
      unfold extra exC exP
      rw [B.condC, B.condP]
    simp only [rowComp_slotRow, hex]
    -- no branch-point unknown behind the first row
    refine triangSlot_rows st _ _ (by omega) hpiv _ x fun i h1 h2 => ?_
    unfold extra
    rw [if_neg (by omega), exP_zero hcp, ite_self, add_zero]
  · refine forall₃_congr fun i h1 h2 => ?_
    obtain ⟨f1, f2, f3, f4⟩ := triangSlot_slotEq hwf st hb hb' hbb i h1 h2
    rw [rowComp_congr ix sc st _ x z b' i f2 f1 f3 (by rw [B.condC]) (by rw [B.condP]), f4]

theorem backsubSlot_diag {st : St K} {b : Nat} (hT : Tri ix st b) (hcc : FirstFree sc st b)
    (hcp : LastFree sc st b) : Diag ix sc (backsubSlot st (ix.first b) (ix.paddedLast b)) b :=
  ⟨fun _ h1 h2 => if_pos ⟨h1, h2⟩, fun _ h1 h2 => if_pos ⟨h1, h2⟩, hT.up0, hcc, hcp⟩

theorem backsubSlot_sat (hwf : WF ix sc) (st : St K) (b : Nat)
    (hb : b ∈ branchesOf sc) (hT : Tri ix st b)
    (hcc : FirstFree sc st b) (hcp : LastFree sc st b) :
    SameSol ix sc st (backsubSlot st (ix.first b) (ix.paddedLast b)) := by
  intro x z
  have hs := hwf.slot b hb
  have hse : ix.first b ≤ ix.paddedLast b := by omega
  refine sat_congr_comp (fun p => rowBp_congr st _ x z p rfl rfl rfl) rfl fun _ b' hb' => ?_
  by_cases hbb : b' = b
  · subst hbb
    -- afterwards the slot is diagonal; before, its rows contain no branch-point unknown
    have hDg := backsubSlot_diag hT hcc hcp
    have hex : extra ix sc st z b' = fun _ => 0 := by
      funext i
      unfold extra
      rw [exC_zero hcc, exP_zero hcp, ite_self, ite_self, add_zero]
    exact ((forall₃_congr fun i h1 h2 => by rw [rowComp_diag ix sc _ x z b' i hDg h1 h2]).trans
      (backsubSlot_rows st _ _ hse hT x)).trans (forall₃_congr fun i h1 h2 => by rw [rowComp_slotRow, hex])
  · refine forall₃_congr fun i h1 h2 => ?_
    obtain ⟨f1, f2, f3⟩ := backsubSlot_frame st _ _ i (hwf.disj b' hb' b hb hbb i h1 h2)
    rw [rowComp_congr ix sc st _ x z b' i f3 f2 rfl rfl rfl, f1]

/-! The model's level steps are `vmap`s: folds whose step reads the state at the START of the level.  The same function called with a
one-element list is the step for one branch reading the CURRENT state, and for pairwise distinct branches the level step is these
calls one after the other (`foldl_frozen_eq`: no step changes what the step of another branch reads; `ecl_eq_fold` …), so that
everything below is about one branch at a time. -/

theorem foldl_frozen_eq {σ α : Type} {G : List α → σ → σ} {g : σ → σ → α → σ} (hG : ∀ l s, G l s = l.foldl (g s) s)
    (key : α → Nat) (h : ∀ s₀ a a' s, key a' ≠ key a → g (g s₀ s₀ a) s a' = g s₀ s a') :
    ∀ (l : List α) (s₀ : σ), (l.map key).Nodup → G l s₀ = l.foldl (fun s a => G [a] s) s₀ := by
  -- under the binders of the goal this turns `G [a] s` into `g s s a`
  simp only [hG, List.foldl_cons, List.foldl_nil]
  intro l
  induction l with
  | nil => intros; rfl
  | cons a t ih =>
    intro s₀ hn
    rw [List.map_cons, List.nodup_cons] at hn
    rw [List.foldl_cons, List.foldl_cons, ← ih _ hn.2]
    exact List.foldl_ext _ _ _ fun s a' ha' => (h s₀ a a' s fun he => hn.1 (he ▸ List.mem_map_of_mem ha')).symm

def eclStep (ix : Idx) (acc : St K) (bp : Nat × Nat) : St K := elimChildrenLower ix [bp] acc
def epuStep (ix : Idx) (acc : St K) (bp : Nat × Nat) : St K := elimParentsUpper ix [bp] acc
def eplStep (ix : Idx) (acc : St K) (bp : Nat × Nat) : St K := elimParentsLower ix [bp] acc
def ecuStep (ix : Idx) (acc : St K) (bp : Nat × Nat) : St K := elimChildrenUpper ix [bp] acc

theorem ecl_eq_fold (ix : Idx) (cil : List (Nat × Nat)) (st : St K) (hn : (cil.map (·.1)).Nodup) :
    elimChildrenLower ix cil st = cil.foldl (eclStep ix) st :=
  foldl_frozen_eq (G := elimChildrenLower ix) (fun _ _ => rfl) (·.1) (fun _ _ _ _ hne => by simp only [upd_ne hne]) cil st hn

theorem epu_eq_fold (ix : Idx) (pil : List (Nat × Nat)) (st : St K) (hn : (pil.map (·.1)).Nodup) :
    elimParentsUpper ix pil st = pil.foldl (epuStep ix) st :=
  foldl_frozen_eq (G := elimParentsUpper ix) (fun _ _ => rfl) (·.1) (fun _ _ _ _ hne => by simp only [upd_ne hne]) pil st hn

theorem epl_eq_fold (ix : Idx) (pil : List (Nat × Nat)) (st : St K) (hn : (pil.map (·.1)).Nodup) :
    elimParentsLower ix pil st = pil.foldl (eplStep ix) st :=
  foldl_frozen_eq (G := elimParentsLower ix) (fun _ _ => rfl) (·.1) (fun _ _ _ _ hne => by simp only [upd_ne hne]) pil st hn

theorem ecu_eq_fold (ix : Idx) (cil : List (Nat × Nat)) (st : St K) (hn : (cil.map (·.1)).Nodup) :
    elimChildrenUpper ix cil st = cil.foldl (ecuStep ix) st :=
  foldl_frozen_eq (G := elimChildrenUpper ix) (fun _ _ => rfl) (·.1) (fun _ _ _ _ hne => by simp only [upd_ne hne]) cil st hn

theorem childrenOfBp_unique (h : WF ix sc) (c p p' : Nat)
    (h1 : c ∈ childrenOfBp sc p) (h2 : c ∈ childrenOfBp sc p') : p = p' := by
  rw [mem_childrenOfBp] at h1 h2
  have := List.inj_on_of_nodup_map h.ndC h1 h2 rfl
  exact (Prod.mk.injEq _ _ _ _ ▸ this).2

theorem rowBp_of_wC0 (st : St K) (x z : Nat → K) {p : Nat}
    (hC : ∀ c ∈ childrenOfBp sc p, st.weightC c = 0) :
    rowBp ix sc st x z p =
      st.bpDiags p * z p + sumL (((pairsP sc).filter (·.2 == p)).map fun q => st.weightP q.1 * x (ix.last q.1)) := by
  unfold rowBp
  rw [sumL_zero (childrenOfBp sc p) _ fun c hc => by rw [hC c hc, zero_mul], add_zero]

theorem rowBp_solved (st : St K) (x z : Nat → K) {p : Nat}
    (hC : ∀ c ∈ childrenOfBp sc p, st.weightC c = 0) (hP : ∀ q ∈ pairsP sc, q.2 = p → st.weightP q.1 = 0) :
    rowBp ix sc st x z p = st.bpDiags p * z p := by
  rw [rowBp_of_wC0 st x z hC, sumL_zero _ _ fun q hq => by
    rw [List.mem_filter, beq_iff_eq] at hq
    rw [hP q hq.1 hq.2, zero_mul], add_zero]

theorem first_row {st : St K} {x z : Nat → K} {c : Nat × Nat}
    (hrow : rowComp ix sc st x z c.1 (ix.first c.1) = st.solves (ix.first c.1)) (hbp : bpOfChild sc c.1 = some c.2)
    (hT : Tri ix st c.1) (hcp : LastFree sc st c.1) :
    st.diags (ix.first c.1) * x (ix.first c.1) + st.condC c.1 * z c.2 = st.solves (ix.first c.1) := by
  rw [rowComp_eq] at hrow
  have hE : extra ix sc st z c.1 (ix.first c.1) = st.condC c.1 * z c.2 := by
    unfold extra
    rw [if_pos rfl, exP_zero hcp]
    simp only [exC, hbp, ite_self, add_zero]
  rw [ite_mul_eq_zero (hT.up0 _ le_rfl), hE, if_neg (lt_irrefl _), zero_add, add_zero] at hrow
  exact hrow

theorem eclStep_sum (hwf : WF ix sc) (s : St K) (c : Nat × Nat) (hmem : c.1 ∈ childrenOfBp sc c.2)
    (p : Nat) (g : Nat → K) :
    sumL ((childrenOfBp sc p).map fun c' => (eclStep ix s c).weightC c' * g c') =
      sumL ((childrenOfBp sc p).map fun c' => s.weightC c' * g c') - (if p = c.2 then s.weightC c.1 * g c.1 else 0) := by
  show sumL ((childrenOfBp sc p).map fun c' => upd s.weightC c.1 0 (id c') * g c') = _
  split
  · next hp =>
    subst hp
    exact sumL_upd_zero _ id g s.weightC c.1 ((List.map_id _).symm ▸ childrenOfBp_nodup hwf c.2) c.1 hmem rfl
  · next hp =>
    rw [sub_zero]
    exact sumL_upd_notin _ id g s.weightC c.1 0 (by simpa using fun hin => hp (childrenOfBp_unique hwf c.1 _ _ hin hmem))

/-- `_eliminate_children_lower` for one child: `−w/d₀` times its first row is added to the row of its branch point -/
theorem eclStep_sat (hwf : WF ix sc) (st : St K) (c : Nat × Nat) (hc : c ∈ pairsC sc)
    (hT : Tri ix st c.1) (hcp : LastFree sc st c.1) :
    SameSol ix sc st (eclStep ix st c) := by
  intro x z
  obtain ⟨hbr, hbp, hmem⟩ := hwf.child hc
  refine sat_congr_bp (fun b i => rowComp_congr ix sc st _ x z b i rfl rfl rfl rfl rfl) rfl fun hrows q _ => ?_
  have hrow := first_row (hrows c.1 hbr _ le_rfl (by have := hwf.slot c.1 hbr; omega)) hbp hT hcp
  unfold rowBp
  rw [eclStep_sum hwf st c hmem q.2 fun c' => x (ix.first c')]
  simp only [eclStep, elimChildrenLower, List.foldl_cons, List.foldl_nil]
  by_cases hq2 : q.2 = c.2
  · simp only [hq2, upd_same, if_true]
    exact row_add_iff hrow (-st.weightC c.1 / st.diags (ix.first c.1))
      (by linear_combination (-x (ix.first c.1)) * div_mul_cancel₀ (-st.weightC c.1) hT.piv)
  · simp only [upd_ne hq2, if_neg hq2, sub_zero]

/-- `_eliminate_parents_upper` for one parent: `condP / bpDiags` times the row of its branch point (whose children are all
eliminated) is subtracted from its last row -/
theorem epuStep_sat (hwf : WF ix sc) (st : St K) (q : Nat × Nat) (hmem : q ∈ pairsP sc)
    (hD : st.bpDiags q.2 ≠ 0) (hw : ∀ c ∈ childrenOfBp sc q.2, st.weightC c = 0) :
    SameSol ix sc st (epuStep ix st q) := by
  intro x z
  obtain ⟨hbr, hbp, hflt⟩ := hwf.parent hmem
  refine sat_congr_comp (fun p => rowBp_congr st _ x z p rfl rfl rfl) rfl fun hbps b hb => forall₃_congr fun i h1 h2 => ?_
  have hbprow : st.bpDiags q.2 * z q.2 + st.weightP q.1 * x (ix.last q.1) = st.bpSolves q.2 := by
    have := hbps q hmem
    rw [rowBp_of_wC0 st x z hw, hflt] at this
    simpa only [List.map_cons, List.map_nil, sumL_cons, sumL_nil', add_zero] using this
  have hs := hwf.slot q.1 hbr
  simp only [rowComp, epuStep, elimParentsUpper, List.foldl_cons, List.foldl_nil]
  by_cases hi : i = ix.last q.1
  · obtain rfl : b = q.1 := slot_unique hwf hb hbr h1 h2 (by omega) (by omega)
    subst hi
    simp only [upd_same, if_true, hbp]
    exact row_add_iff hbprow (-(st.condP q.1 / st.bpDiags q.2))
      (by linear_combination z q.2 * div_mul_cancel₀ (st.condP q.1) hD)
  · by_cases hbq : b = q.1
    · subst hbq
      simp only [upd_ne hi, if_neg hi]
    · simp only [upd_ne hi, upd_ne hbq]

/-- `_eliminate_parents_lower` for one parent: its last value is known (`x = solves`, the slot is diagonal) and leaves the row of
its branch point -/
theorem eplStep_sat (hwf : WF ix sc) (st : St K) (q : Nat × Nat) (hmem : q ∈ pairsP sc)
    (hDg : Diag ix sc st q.1) :
    SameSol ix sc st (eplStep ix st q) := by
  intro x z
  obtain ⟨hbr, -, hflt⟩ := hwf.parent hmem
  refine sat_congr_bp (fun b i => rowComp_congr ix sc st _ x z b i rfl rfl rfl rfl rfl) rfl fun hrows q' _ => ?_
  have hs := hwf.slot q.1 hbr
  have hxl : x (ix.last q.1) = st.solves (ix.last q.1) := by
    rw [← hrows q.1 hbr (ix.last q.1) hs.1 hs.2, rowComp_diag ix sc st x z q.1 _ hDg hs.1 hs.2]
  simp only [rowBp, eplStep, elimParentsLower, List.foldl_cons, List.foldl_nil]
  by_cases hq2 : q'.2 = q.2
  · simp only [hq2, hflt, upd_same, List.map_cons, List.map_nil, sumL_cons, sumL_nil', hDg.1 _ hs.1 hs.2]
    exact row_add_iff hxl (-st.weightP q.1) (by ring)
  · have hnotin : q.1 ∉ ((pairsP sc).filter (·.2 == q'.2)).map (·.1) := fun hin => by
      have := List.inj_on_of_nodup_map hwf.ndP1 ((mem_fst_of_snd _ _ _).mp hin) hmem rfl
      exact hq2 (this ▸ rfl)
    have hsum := sumL_upd_notin ((pairsP sc).filter (·.2 == q'.2)) (·.1) (fun q'' => x (ix.last q''.1)) st.weightP q.1 0 hnotin
    simp only [upd_ne hq2, hsum]

/-- `_eliminate_children_upper` for one child: the value of its branch point is known (`D z = S`, nothing else is left in that
row) and leaves its first row -/
theorem ecuStep_sat (hwf : WF ix sc) (st : St K) (c : Nat × Nat) (hc : c ∈ pairsC sc)
    (hq : ∃ q ∈ pairsP sc, q.2 = c.2) (hD : st.bpDiags c.2 ≠ 0)
    (hwP : ∀ q ∈ pairsP sc, q.2 = c.2 → st.weightP q.1 = 0) (hwC : ∀ c' ∈ childrenOfBp sc c.2, st.weightC c' = 0) :
    SameSol ix sc st (ecuStep ix st c) := by
  intro x z
  obtain ⟨hbr, hbp, -⟩ := hwf.child hc
  refine sat_congr_comp (fun p => rowBp_congr st _ x z p rfl rfl rfl) rfl fun hbps b hb => forall₃_congr fun i h1 h2 => ?_
  have hz : st.bpDiags c.2 * z c.2 = st.bpSolves c.2 := by
    obtain ⟨q, hq, he⟩ := hq
    rw [← rowBp_solved st x z hwC hwP, ← he]
    exact hbps q hq
  have hs := hwf.slot c.1 hbr
  simp only [rowComp, ecuStep, elimChildrenUpper, List.foldl_cons, List.foldl_nil]
  by_cases hi : i = ix.first c.1
  · obtain rfl : b = c.1 := slot_unique hwf hb hbr h1 h2 (by omega) (by omega)
    subst hi
    simp only [upd_same, if_true, hbp]
    exact row_add_iff hz (-(st.condC c.1 / st.bpDiags c.2))
      (by linear_combination z c.2 * div_mul_cancel₀ (st.condC c.1) hD)
  · by_cases hbq : b = c.1
    · subst hbq
      simp only [upd_ne hi, if_neg hi]
    · simp only [upd_ne hi, upd_ne hbq]

theorem slotPiv_congr {st st' : St K} {b : Nat} (h : SlotEq ix st st' b)
    (hse : ix.first b ≤ ix.paddedLast b)
    (hp : SlotPiv st (ix.first b) (ix.paddedLast b)) : SlotPiv st' (ix.first b) (ix.paddedLast b) := by
  intro k hk
  rw [pe_congr (d := st.diags) (lo := st.lowers) (up := st.uppers) (y := st.solves) k (by omega)
    (fun j h1 h2 => h j (by omega) h2)]
  exact hp k hk

theorem tri_congr {st st' : St K} {b : Nat} (h : SlotEq ix st st' b) (hse : ix.first b ≤ ix.paddedLast b)
    (hT : Tri ix st b) : Tri ix st' b := by
  obtain ⟨t1, t2, t3⟩ := hT
  refine ⟨?_, ?_, ?_⟩
  · intro j h1 h2
    rw [h.uppers j h1 (by omega)]; exact t1 j h1 h2
  · intro j h1 h2
    rw [h.diags j (by omega) h2]; exact t2 j h1 h2
  · rw [h.diags _ le_rfl hse]; exact t3

/-- progress of the triangulation pass, told by what is still to do: all slots but those of the branches `T` are triangulated, all
children but the pairs `C` are eliminated from the rows of their branch points, all branch points but those of the pairs `P` from the
last rows of their parents; `bpd`: the diagonals of the finished branch points, which this pass only carries along: they are the
divisors of the second pass.  A fold over a level takes its elements from the head of a list that sits at the END of the index
(`above_snoc`, `chs_snoc`, `prs_snoc`): hence the shape `T ++ b :: t` ↦ `T ++ t` of the step lemmas (`not_mem_middle`,
`upd_zero_notMem`). -/
structure Inv1 (ix : Idx) (sc : Sched) (T : List Nat) (C P : List (Nat × Nat)) (s : St K) : Prop where
  tri : ∀ b ∈ branchesOf sc, b ∉ T → Tri ix s b
  wC0 : ∀ c ∈ pairsC sc, c ∉ C → s.weightC c.1 = 0
  cP0 : ∀ q ∈ pairsP sc, q ∉ P → s.condP q.1 = 0
  bpd : ∀ q ∈ pairsP sc, q ∉ P → s.bpDiags q.2 ≠ 0

theorem Inv1.lastFree {T : List Nat} {C P : List (Nat × Nat)} {s : St K} (h : Inv1 ix sc T C P s) {b : Nat}
    (hb : ∀ q ∈ P, q.1 ≠ b) : LastFree sc s b :=
  (bpOfParent_cases sc b).elim Or.inr fun ⟨q, hq, he⟩ => Or.inl (he ▸ h.cP0 q hq fun hin => hb q hin he)

theorem Inv1.wC0_bp {T : List Nat} {C P : List (Nat × Nat)} {s : St K} (h : Inv1 ix sc T C P s) {p : Nat}
    (hp : ∀ c ∈ pairsC sc, c.2 = p → c ∉ C) : ∀ c ∈ childrenOfBp sc p, s.weightC c = 0 := fun c hc =>
  have hc' := (mem_childrenOfBp sc c p).mp hc
  h.wC0 (c, p) hc' (hp _ hc' rfl)

theorem triangSlot_inv1 (hwf : WF ix sc) {T t : List Nat} {C P : List (Nat × Nat)} {s : St K} {b : Nat}
    (h : Inv1 ix sc (T ++ b :: t) C P s) (hb : b ∈ branchesOf sc) (hpiv : SlotPiv s (ix.first b) (ix.paddedLast b)) :
    Inv1 ix sc (T ++ t) C P (triangSlot s (ix.first b) (ix.paddedLast b)) := by
  have B := triangSlot_bp s (ix.first b) (ix.paddedLast b)
  refine ⟨fun c hc hn => ?_, B.weightC ▸ h.wC0, B.condP ▸ h.cP0, B.bpDiags ▸ h.bpd⟩
  have hs := hwf.slot c hc
  rcases eq_or_ne c b with rfl | hne
  · exact triangSlot_tri s _ _ (by omega) hpiv
  · exact tri_congr (triangSlot_slotEq hwf s hb hc hne) (by omega) (h.tri c hc (not_mem_middle hne hn))

theorem eclStep_inv1 {T : List Nat} {C t P : List (Nat × Nat)} {s : St K} {c : Nat × Nat}
    (h : Inv1 ix sc T (C ++ c :: t) P s) (hP : ∀ q ∈ pairsP sc, q ∉ P → q.2 ≠ c.2) :
    Inv1 ix sc T (C ++ t) P (eclStep ix s c) := by
  refine ⟨h.tri, upd_zero_notMem s.weightC Prod.fst h.wC0, h.cP0, fun q hq hn => ?_⟩
  show upd s.bpDiags c.2 _ q.2 ≠ 0
  rw [upd_ne (hP q hq hn)]
  exact h.bpd q hq hn

theorem epuStep_inv1 (hwf : WF ix sc) {T : List Nat} {C P t : List (Nat × Nat)} {s : St K} {q : Nat × Nat}
    (h : Inv1 ix sc T C (P ++ q :: t) s) (hq : q.1 ∈ branchesOf sc) (hT : q.1 ∈ T) (hD : s.bpDiags q.2 ≠ 0) :
    Inv1 ix sc T C (P ++ t) (epuStep ix s q) := by
  have hs := hwf.slot q.1 hq
  refine ⟨fun c hc hn => ?_, h.wC0, upd_zero_notMem s.condP Prod.fst h.cP0, fun q' hq' hn => ?_⟩
  · -- the slot of the parent is still to be triangulated, so its last cell lies outside the slot of `c`
    obtain ⟨t1, t2, t3⟩ := h.tri c hc hn
    have hs' := hwf.slot c hc
    have hout := hwf.disj q.1 hq c hc (fun he => hn (he ▸ hT)) (ix.last q.1) hs.1 hs.2
    refine ⟨t1, fun j h1 h2 => ?_, ?_⟩
    · show upd s.diags (ix.last q.1) _ j = 1
      rw [upd_ne (by omega)]
      exact t2 j h1 h2
    · show upd s.diags (ix.last q.1) _ (ix.first c) ≠ 0
      rw [upd_ne (by omega)]
      exact t3
  · rcases eq_or_ne q' q with rfl | hne
    · exact hD
    · exact h.bpd q' hq' (not_mem_middle hne hn)

theorem triangLevel_spec (hwf : WF ix sc) {T : List Nat} {C P : List (Nat × Nat)} (bs : List Nat) (s : St K)
    (hn : bs.Nodup) (hI : Inv1 ix sc (T ++ bs) C P s)
    (hpre : ∀ b ∈ bs, b ∈ branchesOf sc ∧ SlotPiv s (ix.first b) (ix.paddedLast b) ∧ ∀ q ∈ P, q.1 ≠ b) :
    Inv1 ix sc T C P (triangLevel ix bs s) ∧ SameSol ix sc s (triangLevel ix bs s) := by
  induction bs generalizing s with
  | nil => exact ⟨by rwa [List.append_nil] at hI, SameSol.refl ix sc _⟩
  | cons b t ih =>
    rw [List.nodup_cons] at hn
    obtain ⟨hb, hpiv, hP⟩ := hpre b List.mem_cons_self
    obtain ⟨i1, i2⟩ := ih _ hn.2 (triangSlot_inv1 hwf hI hb hpiv) fun b' hb' => by
      -- the other slots of the level are not touched
      obtain ⟨h1, h2, h3⟩ := hpre b' (List.mem_cons_of_mem _ hb')
      have hs := hwf.slot b' h1
      exact ⟨h1, slotPiv_congr (triangSlot_slotEq hwf s hb h1 fun he => hn.1 (he ▸ hb')) (by omega) h2, h3⟩
    exact ⟨i1, (triangSlot_sat hwf s b hb hpiv (hI.lastFree hP)).trans i2⟩

theorem ecl_spec (hwf : WF ix sc) {T : List Nat} {C P : List (Nat × Nat)} (l : List (Nat × Nat)) (s : St K)
    (hn : (l.map (·.1)).Nodup) (hI : Inv1 ix sc T (C ++ l) P s)
    (hpre : ∀ c ∈ l, c ∈ pairsC sc ∧ c.1 ∉ T ∧ (∀ q ∈ P, q.1 ≠ c.1) ∧ ∀ q ∈ pairsP sc, q ∉ P → q.2 ≠ c.2) :
    Inv1 ix sc T C P (elimChildrenLower ix l s) ∧ SameSol ix sc s (elimChildrenLower ix l s) := by
  rw [ecl_eq_fold ix l s hn]
  clear hn
  induction l generalizing s with
  | nil => exact ⟨by rwa [List.append_nil] at hI, SameSol.refl ix sc _⟩
  | cons c t ih =>
    obtain ⟨hc, hT, hcp, hP⟩ := hpre c List.mem_cons_self
    obtain ⟨i1, i2⟩ := ih (eclStep ix s c) (eclStep_inv1 hI hP) fun c' hc' => hpre c' (List.mem_cons_of_mem _ hc')
    exact ⟨i1, (eclStep_sat hwf s c hc (hI.tri _ (hwf.child hc).1 hT) (hI.lastFree hcp)).trans i2⟩

theorem epu_spec (hwf : WF ix sc) {T : List Nat} {C P : List (Nat × Nat)} (l : List (Nat × Nat)) (s : St K)
    (hn : (l.map (·.1)).Nodup) (hI : Inv1 ix sc T C (P ++ l) s)
    (hpre : ∀ q ∈ l, q ∈ pairsP sc ∧ q.1 ∈ T ∧ s.bpDiags q.2 ≠ 0 ∧ ∀ c ∈ pairsC sc, c.2 = q.2 → c ∉ C) :
    Inv1 ix sc T C P (elimParentsUpper ix l s) ∧ SameSol ix sc s (elimParentsUpper ix l s) := by
  rw [epu_eq_fold ix l s hn]
  clear hn
  induction l generalizing s with
  | nil => exact ⟨by rwa [List.append_nil] at hI, SameSol.refl ix sc _⟩
  | cons q t ih =>
    obtain ⟨hmem, hT, hD, hch⟩ := hpre q List.mem_cons_self
    -- `hpre` speaks of `s.bpDiags`, `ih` asks for the same of `epuStep ix s q`: the step does not write that array, so the two are
    -- the same proposition
    obtain ⟨i1, i2⟩ := ih (epuStep ix s q) (epuStep_inv1 hwf hI (hwf.parent hmem).1 hT hD)
      fun q' hq' => hpre q' (List.mem_cons_of_mem _ hq')
    exact ⟨i1, (epuStep_sat hwf s q hmem hD (hI.wC0_bp hch)).trans i2⟩

/-- the pass has still to deal with the levels `pre` (those above the ones it has dealt with) and with the roots -/
abbrev Inv1L (ix : Idx) (sc : Sched) (pre : List Lv) (s : St K) : Prop :=
  Inv1 ix sc (above sc pre) (chs pre) (prs pre) s

theorem trLevel_spec (hwf : WF ix sc) {pre : List Lv} {lv : Lv} {post : List Lv}
    (hd : levels sc = pre ++ lv :: post) (s : St K) (hI : Inv1L ix sc (pre ++ [lv]) s)
    (hpiv : ∀ c ∈ lv.1, SlotPiv s (ix.first c.1) (ix.paddedLast c.1))
    (hbpd : ∀ q ∈ lv.2, (elimChildrenLower ix lv.1 (triangLevel ix (lv.1.map (·.1)) s)).bpDiags q.2 ≠ 0) :
    Inv1L ix sc pre (trLevel ix lv s) ∧ SameSol ix sc s (trLevel ix lv s) := by
  have L := lvOK_of_wf hwf hd
  rw [Inv1L, above_snoc, chs_snoc, prs_snoc] at hI
  have hcp : ∀ c ∈ lv.1, ∀ q ∈ prs pre ++ lv.2, q.1 ≠ c.1 := fun c hc q hq he => L.cnew c hc (he ▸ L.pup q hq)
  obtain ⟨I1, s1⟩ := triangLevel_spec hwf (lv.1.map (·.1)) s L.cnd hI fun b hb => by
    obtain ⟨c, hc, rfl⟩ := List.mem_map.mp hb
    exact ⟨(hwf.child (L.cmem c hc)).1, hpiv c hc, hcp c hc⟩
  -- step 2: the children are folded into their branch points, whose parents are in this level: a branch point has one parent
  obtain ⟨I2, s2⟩ := ecl_spec hwf lv.1 _ L.cnd I1 fun c hc => ⟨L.cmem c hc, L.cnew c hc, hcp c hc, fun q' hq' hn he => by
    obtain ⟨q, hq, hqe⟩ := L.cpar c hc
    exact hn (List.inj_on_of_nodup_map hwf.ndP2 hq' (L.pmem q hq) (he.trans hqe.symm) ▸ List.mem_append_right _ hq)⟩
  -- step 3: the slot of a parent is still to do (`pup`: the step writes its last diagonal, cf. `epuStep_inv1`), and every child of
  -- its branch point is folded in: none is in a level above (`pch`)
  obtain ⟨I3, s3⟩ := epu_spec hwf lv.2 _ L.pnd I2 fun q hq =>
    ⟨L.pmem q hq, L.pup q (List.mem_append_right _ hq), hbpd q hq, fun c _ he hin => L.pch q hq c hin he⟩
  exact ⟨I3, (s1.trans s2).trans s3⟩

/-- `rest` is in the order of the pass (deepest first), so `rest.reverse` is the part of `levels sc` above what is done -/
theorem trLevels_spec (hwf : WF ix sc) (rest post : List Lv) (s : St K)
    (hd : levels sc = rest.reverse ++ post) (hI : Inv1L ix sc rest.reverse s) (hp : PivLevels ix rest s) :
    Inv1L ix sc [] (trLevels ix rest s) ∧ SameSol ix sc s (trLevels ix rest s) := by
  induction rest generalizing post s with
  | nil => exact ⟨hI, SameSol.refl ix sc _⟩
  | cons lv rest ih =>
    obtain ⟨hpiv, hbpd, hrest⟩ := hp
    rw [List.reverse_cons] at hd hI
    rw [List.append_assoc] at hd
    obtain ⟨r1, r2⟩ := trLevel_spec hwf hd s hI hpiv hbpd
    obtain ⟨i1, i2⟩ := ih _ _ hd r1 hrest
    exact ⟨i1, r2.trans i2⟩

/-- the state between the two passes: every slot is triangulated, every child and every parent eliminated -/
abbrev End1 (ix : Idx) (sc : Sched) (s : St K) : Prop := Inv1 ix sc [] [] [] s

theorem triangBranched_spec (hwf : WF ix sc) (st : St K) (hp : PivOK ix sc st) :
    End1 ix sc (triangBranched ix sc st) ∧
      SameSol ix sc st (triangBranched ix sc st) := by
  -- at the start everything is still to do
  obtain ⟨hI, hsat⟩ := trLevels_spec hwf (levels sc).reverse [] st (by rw [List.reverse_reverse, List.append_nil])
    (by rw [List.reverse_reverse, Inv1L, hwf.above_levels, ← hwf.pc, ← hwf.pp]
        exact ⟨fun _ hb hn => absurd hb hn, fun _ hc hn => absurd hc hn, fun _ hq hn => absurd hq hn, fun _ hq hn => absurd hq hn⟩)
    hp.1
  rw [Inv1L, above_nil] at hI
  -- `triangBranched` unfolds to `trLevels` followed by the triangulation of the roots
  obtain ⟨I1, s1⟩ := triangLevel_spec hwf (T := []) sc.roots _ hwf.ndR hI fun r hr =>
    ⟨List.mem_append_left _ hr, hp.2 r hr, nofun⟩
  exact ⟨I1, hsat.trans s1⟩

/-- progress of the back-substitution pass, told by what is done: the slots of the branches `D` are diagonal, the parents `W` have left
the rows of their branch points, the branch points have left the first rows of the children `E` -/
structure Inv2 (ix : Idx) (sc : Sched) (D : List Nat) (W E : List (Nat × Nat)) (s : St K) : Prop where
  end1 : End1 ix sc s
  diag : ∀ b ∈ D, Diag ix sc s b
  wP0 : ∀ q ∈ W, s.weightP q.1 = 0
  cC0 : ∀ c ∈ E, s.condC c.1 = 0

theorem backsubSlot_inv2 {D : List Nat} {W E : List (Nat × Nat)} {s : St K} (h : Inv2 ix sc D W E s) (b : Nat)
    (hb : b ∈ branchesOf sc) (hcc : FirstFree sc s b) :
    Inv2 ix sc (D ++ [b]) W E (backsubSlot s (ix.first b) (ix.paddedLast b)) := by
  -- back substitution only writes ones on diagonals and zeros below them
  have hd1 : ∀ j, s.diags j = 1 → (backsubSlot s (ix.first b) (ix.paddedLast b)).diags j = 1 := fun j hj => by
    show (if _ then (1 : K) else s.diags j) = 1
    rw [hj, ite_self]
  have hl0 : ∀ j, s.lowers j = 0 → (backsubSlot s (ix.first b) (ix.paddedLast b)).lowers j = 0 := fun j hj => by
    show (if _ then (0 : K) else s.lowers j) = 0
    rw [hj, ite_self]
  refine ⟨⟨fun b' hb' _ => ?_, h.end1.wC0, h.end1.cP0, h.end1.bpd⟩, fun b' hb' => ?_, h.wP0, h.cC0⟩
  · obtain ⟨t1, t2, t3⟩ := h.end1.tri b' hb' List.not_mem_nil
    refine ⟨t1, fun j h1 h2 => hd1 j (t2 j h1 h2), ?_⟩
    show (if _ then (1 : K) else s.diags (ix.first b')) ≠ 0
    split
    · exact one_ne_zero
    · exact t3
  · rcases List.mem_append.mp hb' with hb' | hb'
    · obtain ⟨d1, d2, d3, d4, d5⟩ := h.diag b' hb'
      exact ⟨fun j h1 h2 => hd1 j (d1 j h1 h2), fun j h1 h2 => hl0 j (d2 j h1 h2), d3, d4, d5⟩
    · rw [List.mem_singleton.mp hb']
      exact backsubSlot_diag (h.end1.tri b hb List.not_mem_nil) hcc (h.end1.lastFree nofun)

theorem eplStep_inv2 {D : List Nat} {W E : List (Nat × Nat)} {s : St K} (h : Inv2 ix sc D W E s) (q : Nat × Nat) :
    Inv2 ix sc D (W ++ [q]) E (eplStep ix s q) :=
  -- not `h.end1`: the state differs, but in none of the arrays `Inv1` reads, so each field is the same proposition
  ⟨⟨h.end1.tri, h.end1.wC0, h.end1.cP0, h.end1.bpd⟩, h.diag, upd_zero_snoc s.weightP Prod.fst q h.wP0, h.cC0⟩

theorem ecuStep_inv2 {D : List Nat} {W E : List (Nat × Nat)} {s : St K} (h : Inv2 ix sc D W E s) (c : Nat × Nat) :
    Inv2 ix sc D W (E ++ [c]) (ecuStep ix s c) := by
  refine ⟨⟨h.end1.tri, h.end1.wC0, h.end1.cP0, h.end1.bpd⟩, fun b hb => ?_, h.wP0, upd_zero_snoc s.condC Prod.fst c h.cC0⟩
  obtain ⟨d1, d2, d3, d4, d5⟩ := h.diag b hb
  exact ⟨d1, d2, d3, d4.imp_left (upd_zero_of_zero _ _ _), d5⟩

theorem backsubLevel_spec (hwf : WF ix sc) {W E : List (Nat × Nat)} (bs D : List Nat) (s : St K)
    (hI : Inv2 ix sc D W E s) (hpre : ∀ b ∈ bs, b ∈ branchesOf sc ∧ (b ∈ E.map (·.1) ∨ bpOfChild sc b = none)) :
    Inv2 ix sc (D ++ bs) W E (backsubLevel ix bs s) ∧ SameSol ix sc s (backsubLevel ix bs s) := by
  induction bs generalizing D s with
  | nil => exact ⟨by rwa [List.append_nil], SameSol.refl ix sc _⟩
  | cons b t ih =>
    obtain ⟨hb, hE⟩ := hpre b List.mem_cons_self
    have hcc : FirstFree sc s b := hE.imp_left fun h => by
      obtain ⟨c, hc, rfl⟩ := List.mem_map.mp h
      exact hI.cC0 c hc
    rw [List.append_cons]
    obtain ⟨i1, i2⟩ := ih (D ++ [b]) _ (backsubSlot_inv2 hI b hb hcc) (fun b' hb' => hpre b' (List.mem_cons_of_mem _ hb'))
    exact ⟨i1, (backsubSlot_sat hwf s b hb (hI.end1.tri b hb List.not_mem_nil) hcc (hI.end1.lastFree nofun)).trans i2⟩

theorem epl_spec (hwf : WF ix sc) {D : List Nat} {E : List (Nat × Nat)} (l W : List (Nat × Nat)) (s : St K)
    (hn : (l.map (·.1)).Nodup) (hI : Inv2 ix sc D W E s)
    (hpre : ∀ q ∈ l, q ∈ pairsP sc ∧ q.1 ∈ D) :
    Inv2 ix sc D (W ++ l) E (elimParentsLower ix l s) ∧
      SameSol ix sc s (elimParentsLower ix l s) := by
  rw [epl_eq_fold ix l s hn]
  clear hn
  induction l generalizing W s with
  | nil => exact ⟨by rwa [List.append_nil], SameSol.refl ix sc _⟩
  | cons q t ih =>
    obtain ⟨hmem, hD⟩ := hpre q List.mem_cons_self
    rw [List.append_cons]
    obtain ⟨i1, i2⟩ := ih (W ++ [q]) (eplStep ix s q) (eplStep_inv2 hI q) (fun q' hq' => hpre q' (List.mem_cons_of_mem _ hq'))
    exact ⟨i1, (eplStep_sat hwf s q hmem (hI.diag _ hD)).trans i2⟩

theorem ecu_spec (hwf : WF ix sc) {D : List Nat} {W : List (Nat × Nat)} (l E : List (Nat × Nat)) (s : St K)
    (hn : (l.map (·.1)).Nodup) (hI : Inv2 ix sc D W E s)
    (hpre : ∀ c ∈ l, c ∈ pairsC sc ∧ ∃ q ∈ pairsP sc, q.2 = c.2 ∧ q ∈ W) :
    Inv2 ix sc D W (E ++ l) (elimChildrenUpper ix l s) ∧
      SameSol ix sc s (elimChildrenUpper ix l s) := by
  rw [ecu_eq_fold ix l s hn]
  clear hn
  induction l generalizing E s with
  | nil => exact ⟨by rwa [List.append_nil], SameSol.refl ix sc _⟩
  | cons c t ih =>
    obtain ⟨hc, q, hq, he, hW⟩ := hpre c List.mem_cons_self
    rw [List.append_cons]
    obtain ⟨i1, i2⟩ := ih (E ++ [c]) (ecuStep ix s c) (ecuStep_inv2 hI c) (fun c' hc' => hpre c' (List.mem_cons_of_mem _ hc'))
    refine ⟨i1, (ecuStep_sat hwf s c hc ⟨q, hq, he⟩ (he ▸ hI.end1.bpd q hq List.not_mem_nil) (fun q' hq' h => ?_)
      (hI.end1.wC0_bp fun _ _ _ => List.not_mem_nil)).trans i2⟩
    -- a branch point has one parent
    rw [List.inj_on_of_nodup_map hwf.ndP2 hq' hq (h.trans he.symm)]
    exact hI.wP0 _ hW

/-- one level of `backsubBranched`: the back-substitution twin of `trLevel` (state first: it is folded as it stands) -/
def bsLevel (ix : Idx) (acc : St K) (lv : Lv) : St K :=
  backsubLevel ix (lv.1.map (·.1)) (elimChildrenUpper ix lv.1 (elimParentsLower ix lv.2 acc))

/-- the pass has dealt with the roots and with the levels `pre` -/
abbrev Inv2L (ix : Idx) (sc : Sched) (pre : List Lv) (s : St K) : Prop :=
  Inv2 ix sc (above sc pre) (prs pre) (chs pre) s

theorem bsLevel_spec (hwf : WF ix sc) {pre : List Lv} {lv : Lv} {post : List Lv}
    (hd : levels sc = pre ++ lv :: post) (s : St K) (hI : Inv2L ix sc pre s) :
    Inv2L ix sc (pre ++ [lv]) (bsLevel ix s lv) ∧ SameSol ix sc s (bsLevel ix s lv) := by
  have L := lvOK_of_wf hwf hd
  obtain ⟨I1, s1⟩ := epl_spec hwf lv.2 _ s L.pnd hI fun q hq => ⟨L.pmem q hq, L.pup q (List.mem_append_right _ hq)⟩
  obtain ⟨I2, s2⟩ := ecu_spec hwf lv.1 _ _ L.cnd I1 fun c hc => by
    obtain ⟨q, hq, he⟩ := L.cpar c hc
    exact ⟨L.cmem c hc, q, L.pmem q hq, he, List.mem_append_right _ hq⟩
  obtain ⟨I3, s3⟩ := backsubLevel_spec hwf (lv.1.map (·.1)) _ _ I2 fun b hb => by
    obtain ⟨c, hc, rfl⟩ := List.mem_map.mp hb
    exact ⟨(hwf.child (L.cmem c hc)).1, Or.inl (List.mem_map_of_mem (List.mem_append_right _ hc))⟩
  rw [Inv2L, above_snoc, chs_snoc, prs_snoc]
  exact ⟨I3, (s1.trans s2).trans s3⟩

theorem bsLevels_spec (hwf : WF ix sc) (rest pre : List Lv) (s : St K) (hd : levels sc = pre ++ rest)
    (hI : Inv2L ix sc pre s) :
    Inv2L ix sc (pre ++ rest) (rest.foldl (bsLevel ix) s) ∧ SameSol ix sc s (rest.foldl (bsLevel ix) s) := by
  induction rest generalizing pre s with
  | nil => exact ⟨by rwa [List.append_nil], SameSol.refl ix sc _⟩
  | cons lv rest ih =>
    obtain ⟨r1, r2⟩ := bsLevel_spec hwf hd s hI
    rw [List.append_cons] at hd ⊢
    obtain ⟨i1, i2⟩ := ih (pre ++ [lv]) (bsLevel ix s lv) hd r1
    exact ⟨i1, r2.trans i2⟩

theorem sat_of_diag (hwf : WF ix sc) (F : St K) (hI : Inv2L ix sc (levels sc) F) (x z : Nat → K) :
    Sat ix sc F x z ↔
      (∀ b ∈ branchesOf sc, ∀ i, ix.first b ≤ i → i ≤ ix.paddedLast b → x i = F.solves i) ∧
      (∀ q ∈ pairsP sc, z q.2 = F.bpSolves q.2 / F.bpDiags q.2) := by
  rw [Inv2L, hwf.above_levels, ← hwf.pc, ← hwf.pp] at hI
  refine and_congr (forall₅_congr fun b hb i h1 h2 => ?_) (forall₂_congr fun q hq => ?_)
  · rw [rowComp_diag ix sc F x z b i (hI.diag b hb) h1 h2]
  · rw [rowBp_solved F x z (hI.end1.wC0_bp fun _ _ _ => List.not_mem_nil)
      fun q' hq' _ => hI.wP0 q' hq', eq_div_iff (hI.end1.bpd q hq List.not_mem_nil), mul_comm]

theorem solve_spec (hwf : WF ix sc) (st : St K) (hp : PivOK ix sc st) (x z : Nat → K) :
    Sat ix sc st x z ↔
      (∀ b ∈ branchesOf sc, ∀ i, ix.first b ≤ i → i ≤ ix.paddedLast b → x i = (solve ix sc st).solves i) ∧
      (∀ q ∈ pairsP sc, z q.2 = (solve ix sc st).bpSolves q.2 / (solve ix sc st).bpDiags q.2) := by
  obtain ⟨hE, s1⟩ := triangBranched_spec hwf st hp
  -- a root is not a child
  obtain ⟨I0, s0⟩ := backsubLevel_spec hwf sc.roots [] _ (W := []) (E := []) ⟨hE, nofun, nofun, nofun⟩ fun r hr =>
    ⟨List.mem_append_left _ hr, Or.inr <| (bpOfChild_cases sc r).resolve_right fun ⟨q, hq, he⟩ =>
      hwf.root_not_child hr (he ▸ List.mem_map_of_mem hq)⟩
  have I0' : Inv2L ix sc [] (backsubLevel ix sc.roots (triangBranched ix sc st)) := by
    rw [Inv2L, above_nil]
    exact I0
  -- `solve` unfolds to the roots' back substitution followed by `bsLevel` folded over the levels
  obtain ⟨I2, s2⟩ := bsLevels_spec hwf (levels sc) [] _ rfl I0'
  rw [← (s1.trans (s0.trans s2)) x z]
  exact sat_of_diag hwf _ I2 x z

end passes

/-- the custom solver returns a solution of the system its input arrays denote, for EVERY well-formed indexer + level schedule
(any number of levels, any branching, any padding) and every array content whose pivots do not vanish -/
theorem solve_correct (ix : Idx) (sc : Sched) (st : St K) (hwf : wfB ix sc = true) (hp : PivOK ix sc st) :
    Sat ix sc st (solve ix sc st).solves (fun p => (solve ix sc st).bpSolves p / (solve ix sc st).bpDiags p) :=
  (solve_spec (wf_unpack hwf) st hp _ _).mpr ⟨fun _ _ _ _ _ => rfl, fun _ _ => rfl⟩

/-- and it is the only one -/
theorem solve_unique (ix : Idx) (sc : Sched) (st : St K) (hwf : wfB ix sc = true) (hp : PivOK ix sc st)
    (x z : Nat → K) (h : Sat ix sc st x z) :
    (∀ b ∈ branchesOf sc, ∀ i, ix.first b ≤ i → i ≤ ix.paddedLast b → x i = (solve ix sc st).solves i) ∧
    (∀ q ∈ pairsP sc, z q.2 = (solve ix sc st).bpSolves q.2 / (solve ix sc st).bpDiags q.2) :=
  (solve_spec (wf_unpack hwf) st hp x z).mp h

/-! ### the executable pivot check decides `PivOK` -/

theorem slotPivB_iff [DecidableEq K] (st : St K) (s e : Nat) : slotPivB st s e = true ↔ SlotPiv st s e := by
  unfold slotPivB SlotPiv
  simp only [List.all_eq_true, List.mem_range, Bool.not_eq_true', beq_eq_false_iff_ne, ne_eq]
  constructor
  · intro h k hk; exact h k (by omega)
  · intro h k hk; exact h k (by omega)

theorem pivLevelsB_iff [DecidableEq K] (ix : Idx) : ∀ (l : List Lv) (st : St K),
    pivLevelsB ix l st = true ↔ PivLevels ix l st := by
  intro l
  induction l with
  | nil => intro st; exact iff_of_true rfl trivial
  | cons lv t ih =>
    intro st
    simp only [pivLevelsB, PivLevels, Bool.and_eq_true, List.all_eq_true, slotPivB_iff, ih,
      Bool.not_eq_true', beq_eq_false_iff_ne, ne_eq, and_assoc]

theorem pivOkB_iff [DecidableEq K] (ix : Idx) (sc : Sched) (st : St K) : pivOkB ix sc st = true ↔ PivOK ix sc st := by
  unfold pivOkB PivOK
  simp only [Bool.and_eq_true, List.all_eq_true, slotPivB_iff, pivLevelsB_iff]

/-! ### the hypotheses are satisfiable: one root branch (2 cells), one branch point, two children whose slots have
different padded sizes (2 real cells in a slot of 2; 1 real cell in a slot of 3) -/

def exIx : Idx :=
  { cumsum := fun b => match b with | 0 => 0 | 1 => 2 | 2 => 4 | _ => 7
    ncomp := fun b => match b with | 0 => 2 | 1 => 2 | _ => 1 }
def exSc : Sched := { childrenInLevel := [[(1, 0), (2, 0)]], parentsInLevel := [[(0, 0)]], roots := [0] }
def exSt : St ℚ :=
  { diags := fun i => if i < 5 then 3 else 1
    lowers := fun i => if i = 1 ∨ i = 3 then -1 else 0
    uppers := fun i => if i = 0 ∨ i = 2 then -1 else 0
    solves := fun i => if i < 5 then 1 else 0
    bpDiags := fun _ => 3, bpSolves := fun _ => 0
    condC := fun _ => -1, weightC := fun _ => -1, condP := fun _ => -1, weightP := fun _ => -1 }

theorem ex_wf : wfB exIx exSc = true := by decide

theorem ex_piv : PivOK exIx exSc exSt := (pivOkB_iff _ _ _).mp (by decide +kernel)

example : ∃ (ix : Idx) (sc : Sched) (st : St ℚ), wfB ix sc = true ∧ PivOK ix sc st := ⟨exIx, exSc, exSt, ex_wf, ex_piv⟩

end JaxleyVerif.Model.SolveJaxley
