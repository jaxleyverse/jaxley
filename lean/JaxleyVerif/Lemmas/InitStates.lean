/-
Lemmas about the model of `Module.init_states` (`Model/InitStates.lean`): what a column holds afterwards, frame, idempotence.
A call writes one list of pairs to a row (`writes`: the returned lists of the member channels, concatenated), and `writeKeys`
leaves in column `k` the last pair with key `k`; everything else follows from these two facts.  Core Lean only.
-/
import JaxleyVerif.Model.InitStates
import JaxleyVerif.Lemmas.Lists

namespace JaxleyVerif.Model.InitStates
variable {α : Type}

def keysOf (kv : List (String × α)) : List String := kv.map (·.1)

theorem writeKeys_eq (st : String → α) (kv : List (String × α)) (k : String) :
    writeKeys st kv k = ((kv.reverse.find? (fun p => p.1 = k)).map (·.2)).getD (st k) := by
  induction kv generalizing st with
  | nil => rfl
  | cons q kv ih =>
    show writeKeys (fun k' => if k' = q.1 then q.2 else st k') kv k = _
    rw [ih, List.reverse_cons, List.find?_append]
    cases kv.reverse.find? (fun p => p.1 = k) with
    | some p => rfl
    | none => by_cases h : k = q.1 <;> simp [h, eq_comm]

theorem writeKeys_of_not_mem (st : String → α) (kv : List (String × α)) (k : String) (h : k ∉ keysOf kv) :
    writeKeys st kv k = st k := by
  rw [writeKeys_eq, List.find?_eq_none.mpr]
  · rfl
  · intro p hp hk
    exact h (of_decide_eq_true hk ▸ List.mem_map_of_mem (List.mem_reverse.mp hp))

theorem writeKeys_of_forall (st : String → α) (kv : List (String × α)) (k : String) (x : α)
    (hex : k ∈ keysOf kv) (hall : ∀ p ∈ kv, p.1 = k → p.2 = x) : writeKeys st kv k = x := by
  rw [writeKeys_eq]
  cases hf : kv.reverse.find? (fun p => p.1 = k) with
  | some p => exact hall p (List.mem_reverse.mp (List.mem_of_find?_eq_some hf)) (by simpa using List.find?_some hf)
  | none =>
    obtain ⟨p, hp, rfl⟩ := List.mem_map.mp hex
    exact absurd (decide_eq_true rfl) (List.find?_eq_none.mp hf p (List.mem_reverse.mpr hp))

theorem writeKeys_of_mem (st : String → α) (kv : List (String × α)) (k : String) (x : α)
    (hmem : (k, x) ∈ kv) (hnd : (keysOf kv).Nodup) : writeKeys st kv k = x :=
  writeKeys_of_forall st kv k x (List.mem_map_of_mem hmem)
    (fun _ hp hk => congrArg Prod.snd (eq_of_nodup_map (key := Prod.fst) hnd hp hmem hk))

theorem writeKeys_append (st : String → α) (kv₁ kv₂ : List (String × α)) :
    writeKeys st (kv₁ ++ kv₂) = writeKeys (writeKeys st kv₁) kv₂ :=
  List.foldl_append

theorem writeKeys_idem (st : String → α) (kv : List (String × α)) :
    writeKeys (writeKeys st kv) kv = writeKeys st kv := by
  funext k
  rw [writeKeys_eq (writeKeys st kv), writeKeys_eq st]
  cases kv.reverse.find? (fun p => p.1 = k) <;> rfl

def writes (chans : List (Chan α)) (has : String → Bool) (dt : α) (snap : Row α) : List (String × α) :=
  chans.flatMap (fun c => if has c.name then c.init snap.states snap.v snap.params dt else [])

theorem mem_writes {chans : List (Chan α)} {has : String → Bool} {dt : α} {snap : Row α} {p : String × α} :
    p ∈ writes chans has dt snap ↔
      ∃ c ∈ chans, has c.name = true ∧ p ∈ c.init snap.states snap.v snap.params dt := by
  simp only [writes, List.mem_flatMap]
  exact exists_congr fun c => and_congr_right fun _ => by cases has c.name <;> simp

theorem initRowFrom_eq_writeKeys (chans : List (Chan α)) (has : String → Bool) (dt : α) (snap : Row α)
    (cur : String → α) : initRowFrom chans has dt snap cur = writeKeys cur (writes chans has dt snap) := by
  induction chans generalizing cur with
  | nil => rfl
  | cons c cs ih =>
    show initRowFrom cs has dt snap (if has c.name then writeKeys cur (c.init snap.states snap.v snap.params dt) else cur)
      = writeKeys cur ((if has c.name then c.init snap.states snap.v snap.params dt else []) ++ writes cs has dt snap)
    rw [ih, writeKeys_append]
    cases has c.name <;> rfl

theorem initRow_eq (chans : List (Chan α)) (has : String → Bool) (dt : α) (r : Row α) :
    initRow chans has dt r = { r with states := writeKeys r.states (writes chans has dt r) } := by
  rw [initRow, initRowFrom_eq_writeKeys]

theorem initRowFrom_frame (chans : List (Chan α)) (has : String → Bool) (dt : α) (snap : Row α) (cur : String → α) (k : String)
    (h : ∀ c ∈ chans, has c.name = true → k ∉ keysOf (c.init snap.states snap.v snap.params dt)) :
    initRowFrom chans has dt snap cur k = cur k := by
  rw [initRowFrom_eq_writeKeys]
  refine writeKeys_of_not_mem _ _ _ fun hk => ?_
  obtain ⟨p, hp, rfl⟩ := List.mem_map.mp hk
  obtain ⟨c, hc, hh, hpc⟩ := mem_writes.mp hp
  exact h c hc hh (List.mem_map_of_mem hpc)

theorem initRow_no_channel (chans : List (Chan α)) (has : String → Bool) (dt : α) (r : Row α)
    (h : ∀ c ∈ chans, has c.name = false) : (initRow chans has dt r).states = r.states := by
  funext k
  exact initRowFrom_frame chans has dt r r.states k (fun c hc hh => by rw [h c hc] at hh; cases hh)

theorem initRow_v (chans : List (Chan α)) (has : String → Bool) (dt : α) (r : Row α) :
    (initRow chans has dt r).v = r.v ∧ (initRow chans has dt r).params = r.params := ⟨rfl, rfl⟩

/-- the value is computed from the SNAPSHOT: the row as it was before the call.  `kv` is the list the channel returns there. -/
theorem initRowFrom_member (chans : List (Chan α)) (has : String → Bool) (dt : α) (snap : Row α) (cur : String → α)
    (c : Chan α) (hc : c ∈ chans) (hhas : has c.name = true) {kv : List (String × α)}
    (hkv : c.init snap.states snap.v snap.params dt = kv) (hnd : (keysOf kv).Nodup) (k : String) (x : α) (hmem : (k, x) ∈ kv)
    (hother : ∀ c' ∈ chans, c' ≠ c → has c'.name = true → k ∉ keysOf (c'.init snap.states snap.v snap.params dt)) :
    initRowFrom chans has dt snap cur k = x := by
  subst hkv
  rw [initRowFrom_eq_writeKeys]
  refine writeKeys_of_forall _ _ _ _ (List.mem_map_of_mem (mem_writes.mpr ⟨c, hc, hhas, hmem⟩)) fun p hp hk => ?_
  obtain ⟨c', hc', hh', hpc'⟩ := mem_writes.mp hp
  by_cases e : c' = c
  · subst e
    exact congrArg Prod.snd (eq_of_nodup_map (key := Prod.fst) hnd hpc' hmem hk)
  · exact absurd (hk ▸ List.mem_map_of_mem hpc') (hother c' hc' e hh')

/-- When no channel's `init_state` reads the states (true of every built-in channel: it is a function of the voltage and the
parameters), a second call writes the same pairs again, and writing a list twice is writing it once (`writeKeys_idem`). -/
theorem initRow_idem (chans : List (Chan α)) (has : String → Bool) (dt : α) (r : Row α)
    (hind : ∀ c ∈ chans, ∀ s s' v p, c.init s v p dt = c.init s' v p dt) :
    initRow chans has dt (initRow chans has dt r) = initRow chans has dt r := by
  have hw : writes chans has dt (initRow chans has dt r) = writes chans has dt r :=
    congrArg List.flatten
      (List.map_congr_left fun c hc => by rw [hind c hc (initRow chans has dt r).states r.states]; rfl)
  rw [initRow_eq chans has dt (initRow chans has dt r), hw, initRow_eq chans has dt r]
  simp only [writeKeys_idem]

end JaxleyVerif.Model.InitStates
