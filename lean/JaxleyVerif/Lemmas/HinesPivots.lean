/-
Pivot positivity of the Hines elimination for weakly row-dominant Z-matrices on a tree
(discharges the `Piv` hypothesis of `hines_correct` for every valid cable system).
-/
import JaxleyVerif.Lemmas.Hines

namespace JaxleyVerif.Model.HTree
variable {K : Type} [Field K] [LinearOrder K] [IsStrictOrderedRing K]

/-- `Σ_c down_c` over a list of children -/
def sumDownCoef : List (HTree K) → K
  | [] => 0
  | t :: rest => downOf t + sumDownCoef rest

/-- row slack `d + up + Σ_c down_c` -/
def slack : HTree K → K
  | node _ d _ up _ kids => d + up + sumDownCoef kids

mutual
/-- off-diagonals non-positive, rows weakly dominant, and every node either strictly dominant or coupled to
its parent (`up < 0`) -/
def Good : HTree K → Prop
  | node i d b up down kids =>
    up ≤ 0 ∧ down ≤ 0 ∧ 0 ≤ slack (node i d b up down kids) ∧
    (up < 0 ∨ 0 < slack (node i d b up down kids)) ∧ GoodKids kids
def GoodKids : List (HTree K) → Prop
  | [] => True
  | t :: rest => Good t ∧ GoodKids rest
end

/-- the lower bound of `pivot_bound` is positive: `up < slack`, through `0`, either way -/
theorem bound_pos {i : Nat} {d b up down : K} {kids : List (HTree K)} (h : Good (node i d b up down kids)) :
    0 < -up + slack (node i d b up down kids) := by
  obtain ⟨hup, -, hs, h1, -⟩ := h
  rw [neg_add_eq_sub, sub_pos]
  exact h1.elim (·.trans_le hs) hup.trans_lt

mutual
theorem pivot_bound : ∀ t : HTree K, Good t → (elim t).1 ≥ -upOf t + slack t ∧ Piv t
  | node i d b up down kids, h => by
    obtain ⟨hb, hpk⟩ := pivotKids_bound kids h.2.2.2.2
    have hge : -up + slack (node i d b up down kids) ≤ d - (elimKids kids).1 := by
      rw [show -up + slack (node i d b up down kids) = d - -sumDownCoef kids by unfold slack; ring]
      exact sub_le_sub_left hb d
    exact ⟨hge, ((bound_pos h).trans_le hge).ne', hpk⟩
/-- `Σ_c down_c·up_c/d'_c ≤ −Σ_c down_c` -/
theorem pivotKids_bound : ∀ kids : List (HTree K), GoodKids kids →
    (elimKids kids).1 ≤ -sumDownCoef kids ∧ PivKids kids
  | [], _ => ⟨(neg_zero (G := K)).ge, trivial⟩
  | (node i d b up down kids) :: rest, h => by
    obtain ⟨hg, hr⟩ := h
    obtain ⟨hb, hp⟩ := pivot_bound (node i d b up down kids) hg
    obtain ⟨hrb, hrp⟩ := pivotKids_bound rest hr
    refine ⟨?_, hp, hrp⟩
    -- the pivot `e` of the child is positive and at least `−up`, so `down·up/e = (−down)(−up)/e ≤ −down`
    have hfrac : down * up / (elim (node i d b up down kids)).1 ≤ -down := by
      rw [div_le_iff₀ ((bound_pos hg).trans_le hb), ← neg_mul_neg]
      exact mul_le_mul_of_nonneg_left ((le_add_of_nonneg_right hg.2.2.1).trans hb) (neg_nonneg.mpr hg.2.1)
    exact (add_le_add hfrac hrb).trans (neg_add _ _).ge
end

end JaxleyVerif.Model.HTree
