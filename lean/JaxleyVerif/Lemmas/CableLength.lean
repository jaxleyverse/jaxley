/- lengths of the voltage vectors returned by the cell solvers of `Model/Cable.lean`, and when the forward step is refused
(`stepFwd_eq`, `stepFwd_isSome`) (core Lean only) -/
import JaxleyVerif.Model.Cable

namespace JaxleyVerif.Model.Cable
variable {α : Type} [Add α] [Sub α] [Mul α] [Div α] [Neg α] [OfScientific α] [HasPi α] [OfNat α 0] [Inhabited α]

theorem stepBwd_length (c : CellIn α) (dt : α) : (stepBwd c dt).length = nTotal c.ncomp :=
  (List.length_map _).trans List.length_range

theorem stepCN_length (c : CellIn α) (dt : α) : (stepCN c dt).length = nTotal c.ncomp :=
  (List.length_map _).trans List.length_range

/-- only the shape matters to the callers: the update formula is hidden behind `∃ f` -/
theorem stepFwd_eq (c : CellIn α) (dt : α) :
    ∃ f : Nat → α, stepFwd c dt =
      if (compEdges c.parents c.ncomp).any (fun e => e.2.2 != 0) then none else some ((List.range (nTotal c.ncomp)).map f) := by
  unfold stepFwd
  exact ⟨_, rfl⟩

theorem stepFwd_length (c : CellIn α) (dt : α) (l : List α) (h : stepFwd c dt = some l) : l.length = nTotal c.ncomp := by
  obtain ⟨f, hf⟩ := stepFwd_eq c dt
  rw [hf] at h
  split at h
  · cases h
  · rw [← Option.some.inj h, List.length_map, List.length_range]

theorem stepFwd_isSome (c : CellIn α) (dt : α) :
    (stepFwd c dt).isSome = !((compEdges c.parents c.ncomp).any (fun e => e.2.2 != 0)) := by
  obtain ⟨f, hf⟩ := stepFwd_eq c dt
  rw [hf]
  cases (compEdges c.parents c.ncomp).any (fun e => e.2.2 != 0) <;> rfl

end JaxleyVerif.Model.Cable
