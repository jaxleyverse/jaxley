/-
What an ACCEPTED operation of the state machine `Model.Ops` does to the module, one statement per operation: the result is the old
module with a few fields replaced (`m' = { m with … }`), so that every untouched field is untouched by `rfl` (core Lean only).
The total operations `insert`, `deleteRecordingsAll`, `deleteExternal`, `makeTrainable`, `deleteTrainablesAll`, `connect` have
this form by definition; `addToGroup` is total and has it by `addToGroup_eq`.  `Accepts` says on which labels `record` /
`externalInput` succeed; `removeChan` (with `goneOf`: the state names that go) is what an accepted `deleteChannel` returns.
-/
import JaxleyVerif.Lemmas.OpsWF
import JaxleyVerif.Lemmas.Lists

namespace JaxleyVerif.Model.Ops

theorem addToGroup_eq (m : Mod) (rows : List Nat) (name : String) :
    addToGroup m rows name = { m with groups := alter m.groups name (fun g => sortedUnion g rows) rows } := by
  unfold addToGroup alter
  exact (apply_ite (fun g => ({ m with groups := g } : Mod)) _ _ _).symm

theorem setNode_ok {m m' : Mod} {rows : List Nat} {k : String} {v : Nat} (h : setNode m rows k v = .ok m') :
    ∃ targets, m' = { m with cols := writeCol m.n m.cols k targets (some v) } := by
  unfold setNode at h
  split at h
  · cases h
  · cases h
    exact ⟨_, rfl⟩

/-- the view `(rows, es)` accepts the name `st` (`_get_state_names` of the view) and stores it under the labels `inds`: its rows
for a node state of the view, its edges for an edge state of the view -/
def Accepts (m : Mod) (rows es : List Nat) (st : String) (inds : List Nat) : Prop :=
  inds = rows ∧ st ∈ nodeStatesIn m rows ∨ inds = es ∧ st ∈ edgeStatesIn m es

theorem Accepts.lt {m : Mod} {rows es inds : List Nat} {st : String} {n : Nat} (h : Accepts m rows es st inds)
    (hv : (∀ r ∈ rows, r < n) ∧ (∀ e ∈ es, e < n)) : ∀ i ∈ inds, i < n :=
  h.elim (fun h => h.1 ▸ hv.1) (fun h => h.1 ▸ hv.2)

theorem record_ok {m m' : Mod} {rows es : List Nat} {st : String} (h : record m rows es st = .ok m') :
    ∃ inds, Accepts m rows es st inds ∧ m' = { m with recs := dedup (m.recs ++ inds.map (fun i => (i, st))) } := by
  unfold record at h
  by_cases hn : (nodeStatesIn m rows).contains st = true
  · rw [if_pos hn] at h
    exact ⟨rows, Or.inl ⟨rfl, List.contains_iff_mem.mp hn⟩, (Except.ok.inj h).symm⟩
  · rw [if_neg hn] at h
    by_cases he : (edgeStatesIn m es).contains st = true
    · rw [if_pos he] at h
      exact ⟨es, Or.inr ⟨rfl, List.contains_iff_mem.mp he⟩, (Except.ok.inj h).symm⟩
    · rw [if_neg he] at h
      cases h

theorem forall_mem_recs {recs : List (Nat × String)} {inds : List Nat} {st : String} {P : Nat × String → Prop}
    (hl : ∀ r ∈ recs, P r) (hn : ∀ i ∈ inds, P (i, st)) : ∀ r ∈ dedup (recs ++ inds.map (fun i => (i, st))), P r := by
  intro r hr
  rcases List.mem_append.mp (mem_dedup.mp hr) with hr | hr
  · exact hl r hr
  · obtain ⟨i, hi, rfl⟩ := List.mem_map.mp hr
    exact hn i hi

theorem externalInput_ok {m m' : Mod} {rows es : List Nat} {key : String} {data : List (List Nat)}
    (h : externalInput m rows es key data = .ok m') :
    ∃ inds d, Accepts m rows es key inds ∧ m' = { m with ext := alter m.ext key (· ++ inds.zip d) (inds.zip d) } := by
  obtain ⟨hk, h⟩ := of_guard_eq_ok h
  obtain ⟨-, h⟩ := of_guard_eq_ok h
  have hinds : Accepts m rows es key (if (nodeStatesIn m rows).contains key then rows else es) := by
    cases hn : (nodeStatesIn m rows).contains key
    · cases he : (edgeStatesIn m es).contains key
      · rw [hn, he] at hk
        exact absurd rfl hk
      · exact Or.inr ⟨rfl, List.contains_iff_mem.mp he⟩
    · exact Or.inl ⟨rfl, List.contains_iff_mem.mp hn⟩
  unfold alter
  rcases of_ite_ok_eq_ok h with ⟨hany, rfl⟩ | ⟨hany, rfl⟩
  · exact ⟨_, _, hinds, by rw [if_pos hany]⟩
  · exact ⟨_, _, hinds, by rw [if_neg hany]⟩

theorem mem_ext_deleteExternal {m : Mod} {rows es : List Nat} {key : String} {p : String × List (Nat × List Nat)}
    (hp : p ∈ (deleteExternal m rows es key).ext) :
    ∃ p0 ∈ m.ext, p0.1 = p.1 ∧ ∀ r ∈ p.2, r ∈ p0.2 ∧
      ((p.1 == key) = true → r.1 ∉ (if (edgeStates m).contains key then es else rows)) := by
  obtain ⟨p0, hp0, hp⟩ := List.mem_filterMap.mp hp
  refine ⟨p0, hp0, ?_⟩
  generalize (if (edgeStates m).contains key then es else rows) = inView at hp ⊢
  by_cases hk : (p0.1 == key) = true
  · -- an entry of that key: what is kept of it lies outside the view
    rw [if_pos hk] at hp
    obtain ⟨-, hp⟩ := of_ite_none_eq_some hp
    cases hp
    exact ⟨rfl, fun r hr => ⟨(List.mem_filter.mp hr).1, fun _ => by simpa using (List.mem_filter.mp hr).2⟩⟩
  · rw [if_neg hk] at hp
    cases hp
    exact ⟨rfl, fun r hr => ⟨hr, fun h => absurd h hk⟩⟩

/-- `goneStates` of `deleteChannel` -/
def goneOf (m : Mod) (c : ChanDesc) : List String :=
  let others := m.chans.filter (·.name != c.name)
  ((c.states.map (·.1)).filter (fun key => !(others.any (fun o => o.states.any (·.1 == key)))))
    ++ (if others.any (·.current == c.current) then [] else [c.current])

/-- `m` without `c` in `chans` / `currents` -/
def removeChan (m : Mod) (c : ChanDesc) : Mod :=
  { m with
    chans := m.chans.filter (·.name != c.name),
    currents := if (m.chans.filter (·.name != c.name)).any (·.current == c.current) then m.currents
      else m.currents.erase c.current }

theorem mem_goneOf {m : Mod} {c : ChanDesc} {s : String} : s ∈ goneOf m c ↔
    (s ∈ c.states.map (·.1) ∧ (removeChan m c).chans.any (fun o => o.states.any (·.1 == s)) = false) ∨
    ((removeChan m c).chans.any (·.current == c.current) = false ∧ s = c.current) := by
  unfold goneOf
  rw [List.mem_append, List.mem_filter, Bool.not_eq_true']
  refine or_congr Iff.rfl ?_
  show s ∈ (if (removeChan m c).chans.any (·.current == c.current) = true then _ else _) ↔ _
  cases (removeChan m c).chans.any (·.current == c.current)
  · exact List.mem_singleton.trans (and_iff_right rfl).symm
  · exact iff_of_false List.not_mem_nil fun h => Bool.noConfusion h.1

/-- first disjunct: the channel is still present on a row outside the view; second: `allOff` -/
theorem deleteChannel_ok {m m' : Mod} {rows : List Nat} {c : ChanDesc} (h : deleteChannel m rows c = .ok m') :
    ∃ cols flags,
      ((∀ p ∈ m.cols, p.2.length = m.n) → ∀ p ∈ cols, p.2.length = m.n) ∧
      ((∀ p ∈ m.flags, p.2.length = m.n) → ∀ p ∈ flags, p.2.length = m.n) ∧
      (m' = { m with cols := cols, flags := flags } ∨
       m' = { removeChan m c with
          cols := cols, flags := flags,
          recs := m.recs.filter (fun r => !((goneOf m c).contains r.2)),
          ext := m.ext.filter (fun e => !((goneOf m c).contains e.1)) }) := by
  rcases of_ite_ok_eq_ok (of_guard_eq_ok h).2 with ⟨-, rfl⟩ | ⟨-, rfl⟩
  · refine ⟨_, _, fun hl p hp => ?_, fun hl p hp => ?_, Or.inr rfl⟩
    · exact foldl_writeCol_len hl p (List.mem_filter.mp hp).1
    · exact writeFlag_len hl p (List.mem_filter.mp hp).1
  · exact ⟨_, _, foldl_writeCol_len, writeFlag_len, Or.inl rfl⟩

end JaxleyVerif.Model.Ops
