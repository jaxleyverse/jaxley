/-
The pivot hypothesis of `solve_correct` holds for cable-like systems: strictly row-dominant Z-rows for the compartments,
(minus) weighted Kirchhoff rows for the branch points.  Along the triangulation pass every not-yet-triangulated slot stays a
strictly dominant Z-block (`DomB`) and every branch-point row keeps `bpDiags ≤ −(weightP + Σ remaining weightC)` (`BpDom`): the
invariant `DInv`, which gives the pivots of every level (`trLevels_dinv`), hence `pivOK_of_dInv` and `pivOK_of_dominant`.
-/
import JaxleyVerif.Lemmas.SolveJaxleyGlobal
import Mathlib.Algebra.Order.Field.Rat

namespace JaxleyVerif.Model.SolveJaxley
variable {K : Type} [Field K] [LinearOrder K]

/-- the arrays are those of a discretised cable: compartment rows are strictly row-dominant Z-rows (positive diagonal, non-positive
couplings), branch-point rows are (minus) weighted Kirchhoff rows with positive weights -/
structure Dominant (ix : Idx) (sc : Sched) (st : St K) : Prop where
  lo_nonpos : ∀ b ∈ branchesOf sc, ∀ i, ix.first b < i → i ≤ ix.paddedLast b → st.lowers i ≤ 0
  up_nonpos : ∀ b ∈ branchesOf sc, ∀ i, ix.first b ≤ i → i < ix.paddedLast b → st.uppers i ≤ 0
  condC_nonpos : ∀ c ∈ pairsC sc, st.condC c.1 ≤ 0
  condP_nonpos : ∀ q ∈ pairsP sc, st.condP q.1 ≤ 0
  wC_pos : ∀ c ∈ pairsC sc, 0 < st.weightC c.1
  wP_pos : ∀ q ∈ pairsP sc, 0 < st.weightP q.1
  bp_diag : ∀ q ∈ pairsP sc, st.bpDiags q.2 = -(st.weightP q.1 + sumL ((childrenOfBp sc q.2).map (fun c => st.weightC c)))
  row_dom : ∀ b ∈ branchesOf sc, ∀ i, ix.first b ≤ i → i ≤ ix.paddedLast b →
      0 < st.diags i + (if ix.first b < i then st.lowers i else 0) + (if i < ix.paddedLast b then st.uppers i else 0)
          + (if i = ix.first b then (match bpOfChild sc b with | some _ => st.condC b | none => 0) else 0)
          + (if i = ix.last b then (match bpOfParent sc b with | some _ => st.condP b | none => 0) else 0)

section notions
variable {ix : Idx} {sc : Sched}

theorem ite_nonpos {p : Prop} [Decidable p] {a : K} (ha : a ≤ 0) : (if p then a else 0) ≤ 0 := by
  split
  · exact ha
  · exact le_rfl

/-- row excess: diagonal plus the (non-positive) couplings of the row -/
def excess (ix : Idx) (sc : Sched) (s : St K) (b i : Nat) : K :=
  s.diags i + (if ix.first b < i then s.lowers i else 0) + (if i < ix.paddedLast b then s.uppers i else 0)
    + (if i = ix.first b then cC sc s b else 0) + (if i = ix.last b then cP sc s b else 0)

/-- the slot of `b` is a strictly row-dominant Z-block -/
structure DomB (ix : Idx) (sc : Sched) (s : St K) (b : Nat) : Prop where
  lo : ∀ i, ix.first b < i → i ≤ ix.paddedLast b → s.lowers i ≤ 0
  up : ∀ i, ix.first b ≤ i → i < ix.paddedLast b → s.uppers i ≤ 0
  cc : cC sc s b ≤ 0
  cp : cP sc s b ≤ 0
  ex : ∀ i, ix.first b ≤ i → i ≤ ix.paddedLast b → 0 < excess ix sc s b i

theorem domB_congr {st st' : St K} {b : Nat} (h : SlotEq ix st st' b)
    (hc : st'.condC b = st.condC b) (hp : st'.condP b = st.condP b) (hD : DomB ix sc st b) : DomB ix sc st' b := by
  obtain ⟨d1, d2, d3, d4, d5⟩ := hD
  refine ⟨?_, ?_, ?_, ?_, ?_⟩
  · intro i h1 h2
    rw [h.lowers i (by omega) h2]; exact d1 i h1 h2
  · intro i h1 h2
    rw [h.uppers i h1 (by omega)]; exact d2 i h1 h2
  · unfold cC at d3 ⊢; rw [hc]; exact d3
  · unfold cP at d4 ⊢; rw [hp]; exact d4
  · intro i h1 h2
    have := d5 i h1 h2
    obtain ⟨a1, a2, a3, -⟩ := h i h1 h2
    unfold excess cC cP at this ⊢
    rw [a1, a2, a3, hc, hp]
    exact this

/-- the row of branch point `q.2` still dominates (the sum is over all its children: those folded in have weight 0) -/
def BpDom (sc : Sched) (s : St K) (q : Nat × Nat) : Prop :=
  s.bpDiags q.2 ≤ -(s.weightP q.1 + sumL ((childrenOfBp sc q.2).map (fun c => s.weightC c))) ∧ 0 < s.weightP q.1 ∧
  ∀ c ∈ childrenOfBp sc q.2, 0 ≤ s.weightC c

/-- every slot still to be triangulated (those of `T`) is a dominant block, every branch-point row dominates, and the first rows of
the (triangulated) slots `F` still dominate their branch-point couplings -/
structure DInv (ix : Idx) (sc : Sched) (T F : List Nat) (s : St K) : Prop where
  dom : ∀ b ∈ T, b ∈ branchesOf sc ∧ DomB ix sc s b
  bp : ∀ q ∈ pairsP sc, BpDom sc s q
  first : ∀ b ∈ F, b ∈ branchesOf sc ∧ 0 < s.diags (ix.first b) + cC sc s b ∧ cC sc s b ≤ 0

/-- a coefficient that is present only if `b` has a branch point (`cC`, `cP`) is non-positive if it is so for the pairs of `b` -/
theorem optCoef_nonpos {l : List (Nat × Nat)} {b : Nat} {a : K} (h : ∀ q ∈ l, q.1 = b → a ≤ 0) :
    (match (l.find? (·.1 == b)).map (·.2) with | some _ => a | none => 0) ≤ 0 := by
  rcases find_fst_cases l b with hn | ⟨q, hq, he⟩
  · rw [hn]
  · split
    · exact h q hq he
    · exact le_rfl

theorem dInv_of_dominant {st : St K} (hd : Dominant ix sc st) : DInv ix sc (branchesOf sc) [] st := by
  refine ⟨fun b hb => ⟨hb, hd.lo_nonpos b hb, hd.up_nonpos b hb, ?_, ?_, hd.row_dom b hb⟩, fun q hq => ?_,
    nofun⟩
  · exact optCoef_nonpos fun q hq he => he ▸ hd.condC_nonpos q hq
  · exact optCoef_nonpos fun q hq he => he ▸ hd.condP_nonpos q hq
  · exact ⟨le_of_eq (hd.bp_diag q hq), hd.wP_pos q hq, fun c hc =>
      (hd.wC_pos (c, q.2) ((mem_childrenOfBp sc c q.2).mp hc)).le⟩

end notions

variable [IsStrictOrderedRing K]

section pass
variable {ix : Idx} {sc : Sched}

/-- a positive sum stays positive when a non-positive summand is dropped -/
theorem pos_of_add_pos {x c : K} (h : 0 < x + c) (hc : c ≤ 0) : 0 < x :=
  h.trans_le (add_le_of_nonpos_right hc)

/-- the scalar bound behind all three kinds of steps: an eliminated coupling `a` is replaced by `a` times a ratio `n / m ≤ 1` -/
theorem mul_div_le_self {a n m : K} (ha : 0 ≤ a) (hnm : n ≤ m) (hm : 0 < m) : a * n / m ≤ a :=
  div_le_of_le_mul₀ hm.le ha (mul_le_mul_of_nonneg_left hnm ha)

/-- in a dominant Z-row (`c ≤ 0 < m + c`) the ratio `−c / m` is at most 1 -/
theorem mul_neg_div_le_self {a c m : K} (ha : 0 ≤ a) (hc : c ≤ 0) (hm : 0 < m + c) : a * -c / m ≤ a :=
  mul_div_le_self ha (neg_le_iff_add_nonneg.2 hm.le) (pos_of_add_pos hm hc)

/-! ### Thomas on a strictly dominant Z-block: every Schur pivot keeps the row excess -/

theorem pe_dominant (d lo up y g : Nat → K) (s e : Nat) (hlo : ∀ i, s < i → i ≤ e → lo i ≤ 0)
    (hup : ∀ i, s ≤ i → i < e → up i ≤ 0) (hg : ∀ i, s ≤ i → i ≤ e → g i ≤ 0)
    (hex : ∀ i, s ≤ i → i ≤ e → 0 < d i + (if s < i then lo i else 0) + (if i < e then up i else 0) + g i) :
    ∀ i, s ≤ i → i ≤ e → 0 < (pe d lo up y e (e - i)).1 + (if s < i then lo i else 0) + g i := by
  -- induction on the distance from the end of the slot: `pe` counts from there
  suffices h : ∀ n i, i + n = e → s ≤ i → 0 < (pe d lo up y e (e - i)).1 + (if s < i then lo i else 0) + g i from
    fun i h1 h2 => h (e - i) i (by omega) h1
  intro n
  induction n with
  | zero =>
    intro i hi hs
    obtain rfl : i = e := by omega
    have := hex i hs le_rfl
    rw [if_neg (lt_irrefl _), add_zero] at this
    rw [Nat.sub_self]
    exact this
  | succ n ih =>
    intro i hi hs
    have hlt : i < e := by omega
    have ih' := ih (i + 1) (by omega) (by omega)
    rw [if_pos (show s < i + 1 by omega)] at ih'
    have hx := hex i hs (by omega)
    rw [if_pos hlt] at hx
    rw [pe_sub_fst d lo up y e i hlt]
    generalize (pe d lo up y e (e - (i + 1))).1 = P at ih' ⊢
    -- the upper entry `up i` is replaced by `up i` times the ratio `−lo (i+1) / pivot (i+1) ≤ 1`
    have : -up i * -lo (i + 1) / P ≤ -up i :=
      mul_neg_div_le_self (neg_nonneg.2 (hup i hs hlt)) (hlo (i + 1) (by omega) (by omega))
        (pos_of_add_pos ih' (hg (i + 1) (by omega) (by omega)))
    rw [neg_mul_neg] at this
    linear_combination hx + this

theorem domB_pe {s : St K} {b : Nat} (hD : DomB ix sc s b) :
    ∀ i, ix.first b ≤ i → i ≤ ix.paddedLast b →
      0 < (pe s.diags s.lowers s.uppers s.solves (ix.paddedLast b) (ix.paddedLast b - i)).1
        + (if ix.first b < i then s.lowers i else 0)
        + ((if i = ix.first b then cC sc s b else 0) + (if i = ix.last b then cP sc s b else 0)) :=
  fun i h1 h2 => pe_dominant s.diags s.lowers s.uppers s.solves
    (fun i => (if i = ix.first b then cC sc s b else 0) + (if i = ix.last b then cP sc s b else 0))
    (ix.first b) (ix.paddedLast b) hD.lo hD.up
    (fun j _ _ => add_nonpos (ite_nonpos hD.cc) (ite_nonpos hD.cp))
    (fun j j1 j2 => by rw [← add_assoc]; exact hD.ex j j1 j2) i h1 h2

theorem slotPiv_of_domB {s : St K} {b : Nat} (hse : ix.first b ≤ ix.paddedLast b)
    (hD : DomB ix sc s b) : SlotPiv s (ix.first b) (ix.paddedLast b) := by
  intro k hk
  have h := domB_pe hD (ix.paddedLast b - k) (by omega) (by omega)
  rw [Nat.sub_sub_self (hk.trans (Nat.sub_le _ _))] at h
  have h1 : (if ix.first b < ix.paddedLast b - k then s.lowers (ix.paddedLast b - k) else 0) ≤ 0 :=
    if hc : _ then (if_pos hc).trans_le (hD.lo _ hc (by omega)) else (if_neg hc).le
  have h2 := add_nonpos (ite_nonpos (p := ix.paddedLast b - k = ix.first b) hD.cc)
    (ite_nonpos (p := ix.paddedLast b - k = ix.last b) hD.cp)
  -- the pivot exceeds minus the non-positive rest of its row
  exact (pos_of_add_pos (pos_of_add_pos h h2) h1).ne'

theorem triangSlot_first_dom {s : St K} {b : Nat} (hse : ix.first b ≤ ix.paddedLast b)
    (hD : DomB ix sc s b) :
    0 < (triangSlot s (ix.first b) (ix.paddedLast b)).diags (ix.first b) + cC sc s b := by
  have h := domB_pe hD (ix.first b) le_rfl hse
  rw [if_neg (lt_irrefl _), if_pos rfl, add_zero, ← add_assoc] at h
  rw [triangSlot_diag_first s _ _ hse]
  exact pos_of_add_pos h (ite_nonpos hD.cp)

theorem bpDom_neg {s : St K} {q : Nat × Nat} (h : BpDom sc s q) :
    s.bpDiags q.2 ≤ -s.weightP q.1 ∧ 0 < s.weightP q.1 :=
  ⟨h.1.trans (neg_le_neg (le_add_of_nonneg_right (sumL_nonneg _ _ h.2.2))), h.2.1⟩

/-- folding a child whose first row dominates its coupling `condC` into its branch-point row: the diagonal loses at most the
weight that leaves the row -/
theorem eclStep_bpDom (hwf : WF ix sc) (s : St K) (c q : Nat × Nat) (hcm : c ∈ pairsC sc)
    (hd : 0 < s.diags (ix.first c.1) + s.condC c.1) (hc : s.condC c.1 ≤ 0)
    (hB : BpDom sc s q) : BpDom sc (eclStep ix s c) q := by
  obtain ⟨b1, b2, b3⟩ := hB
  have hmem := (hwf.child hcm).2.2
  refine ⟨?_, b2, fun c' hc' => ?_⟩
  · have hsum := eclStep_sum hwf s c hmem q.2 fun _ => 1
    simp only [mul_one] at hsum
    rw [hsum]
    show upd s.bpDiags c.2 _ q.2 ≤ -(s.weightP q.1 + _)
    by_cases hq : q.2 = c.2
    · rw [hq] at b1 b3 ⊢
      rw [upd_same, if_pos rfl]
      linear_combination b1 + mul_neg_div_le_self (b3 c.1 hmem) hc hd
    · rw [upd_ne hq, if_neg hq, sub_zero]
      exact b1
  · show 0 ≤ upd s.weightC c.1 0 c'
    unfold upd
    split
    · exact le_refl _
    · exact b3 c' hc'

/-! ### `elimParentsUpper` does not decrease the excess of the parent's last row -/

theorem epuStep_domB (hwf : WF ix sc) (s : St K) (q : Nat × Nat) (b : Nat)
    (hmem : q ∈ pairsP sc) (hb : b ∈ branchesOf sc)
    (hD : s.bpDiags q.2 ≤ -s.weightP q.1) (hw : 0 < s.weightP q.1) (hDom : DomB ix sc s b) :
    DomB ix sc (epuStep ix s q) b := by
  obtain ⟨hq, hbp, -⟩ := hwf.parent hmem
  by_cases hne : q.1 = b
  · subst hne
    obtain ⟨d1, d2, d3, d4, d5⟩ := hDom
    have e1 : cP sc s q.1 = s.condP q.1 := cP_of_some hbp
    have e2 : cP sc (epuStep ix s q) q.1 = 0 := (cP_of_some hbp).trans (upd_same _ _ _)
    have hcp : s.condP q.1 ≤ 0 := e1 ▸ d4
    refine ⟨d1, d2, d3, by rw [e2], ?_⟩
    intro i h1 h2
    have h := d5 i h1 h2
    have e3 : cC sc (epuStep ix s q) q.1 = cC sc s q.1 := rfl
    have e4 : (epuStep ix s q).lowers = s.lowers := rfl
    have e5 : (epuStep ix s q).uppers = s.uppers := rfl
    unfold excess at h ⊢
    rw [e3, e4, e5, e2]
    rw [e1] at h
    by_cases hi : i = ix.last q.1
    · subst hi
      have e6 : (epuStep ix s q).diags (ix.last q.1) =
          s.diags (ix.last q.1) + -(s.condP q.1 / s.bpDiags q.2) * s.weightP q.1 := upd_same _ _ _
      rw [if_pos rfl] at h ⊢
      rw [e6]
      -- the coupling `condP` to the branch point is replaced by `condP` times the ratio `weightP / −bpDiags ≤ 1`
      have := mul_div_le_self (neg_nonneg.2 hcp) (le_neg.mp hD) (lt_of_lt_of_le hw (le_neg.mp hD))
      linear_combination h + this
    · have e6 : (epuStep ix s q).diags i = s.diags i := upd_ne hi
      rw [if_neg hi] at h ⊢
      rw [e6]
      exact h
  · have hs := hwf.slot q.1 hq
    refine domB_congr (st := s) (st' := epuStep ix s q) ?_ rfl (upd_ne (Ne.symm hne)) hDom
    intro j j1 j2
    have hout := hwf.disj b hb q.1 hq (Ne.symm hne) j j1 j2
    have hj : j ≠ ix.last q.1 := by omega
    exact ⟨upd_ne hj, rfl, rfl, upd_ne hj⟩

theorem triangSlot_dinv (hwf : WF ix sc) {T t F : List Nat} {s : St K} {b : Nat} (h : DInv ix sc (T ++ b :: t) F s)
    (hbT : b ∉ T ++ t) : DInv ix sc (T ++ t) (F ++ [b]) (triangSlot s (ix.first b) (ix.paddedLast b)) := by
  have B := triangSlot_bp s (ix.first b) (ix.paddedLast b)
  obtain ⟨hb, hD⟩ := h.dom b (List.mem_append_right _ List.mem_cons_self)
  have hs := hwf.slot b hb
  have hcC : ∀ b', cC sc (triangSlot s (ix.first b) (ix.paddedLast b)) b' = cC sc s b' := fun b' => by
    unfold cC; rw [B.condC]
  refine ⟨fun b' hb' => ?_, fun q hq => ?_, fun b' hb' => ?_⟩
  · obtain ⟨hbr, hD'⟩ := h.dom b' (((List.sublist_cons_self b t).append_left T).subset hb')
    exact ⟨hbr, domB_congr (triangSlot_slotEq hwf s hb hbr fun he => hbT (he ▸ hb')) (congrFun B.condC b')
      (congrFun B.condP b') hD'⟩
  · unfold BpDom
    rw [B.bpDiags, B.weightP, B.weightC]
    exact h.bp q hq
  · rw [hcC]
    -- `b` enters `F`: the diagonal of its triangulated first row is a Schur pivot, which keeps the row excess (`domB_pe`)
    rcases eq_or_ne b' b with rfl | hne
    · exact ⟨hb, triangSlot_first_dom (by omega) hD, hD.cc⟩
    · obtain ⟨f1, f2, f3⟩ := h.first b' ((List.mem_append.mp hb').resolve_right fun h1 => hne (List.mem_singleton.mp h1))
      have := hwf.slot b' f1
      rw [(triangSlot_slotEq hwf s hb f1 hne).diags _ le_rfl (by omega)]
      exact ⟨f1, f2, f3⟩

theorem triangLevel_dinv (hwf : WF ix sc) {T : List Nat} (bs F : List Nat) (s : St K) (hn : bs.Nodup)
    (h : DInv ix sc (T ++ bs) F s) (hpre : ∀ b ∈ bs, b ∉ T) : DInv ix sc T (F ++ bs) (triangLevel ix bs s) := by
  induction bs generalizing F s with
  | nil => rwa [List.append_nil] at h ⊢
  | cons b t ih =>
    rw [List.nodup_cons] at hn
    rw [List.append_cons]
    exact ih (F ++ [b]) _ hn.2
      (triangSlot_dinv hwf h fun hin => (List.mem_append.mp hin).elim (hpre b List.mem_cons_self) hn.1)
      fun b' hb' => hpre b' (List.mem_cons_of_mem _ hb')

theorem trLevel_dinv (hwf : WF ix sc) {pre : List Lv} {lv : Lv} {post : List Lv}
    (hd : levels sc = pre ++ lv :: post) (s : St K) (hD : DInv ix sc (above sc (pre ++ [lv])) [] s) :
    (∀ c ∈ lv.1, SlotPiv s (ix.first c.1) (ix.paddedLast c.1)) ∧
    (∀ q ∈ lv.2, (elimChildrenLower ix lv.1 (triangLevel ix (lv.1.map (·.1)) s)).bpDiags q.2 ≠ 0) ∧
    DInv ix sc (above sc pre) [] (trLevel ix lv s) := by
  have L := lvOK_of_wf hwf hd
  rw [above_snoc] at hD
  -- step 1: triangulated, the slots of the children leave `T`; their first rows (`F`) are needed in step 2 only
  have D1 := triangLevel_dinv hwf (lv.1.map (·.1)) [] s L.cnd hD fun b hb => by
    obtain ⟨c, hc, rfl⟩ := List.mem_map.mp hb
    exact L.cnew c hc
  -- step 2: their first rows are folded into the branch-point rows
  have D2 : DInv ix sc (above sc pre) (lv.1.map (·.1))
      (elimChildrenLower ix lv.1 (triangLevel ix (lv.1.map (·.1)) s)) := by
    rw [ecl_eq_fold ix lv.1 _ L.cnd]
    refine List.foldlRecOn lv.1 _ D1 fun acc h c hc => ⟨fun b hb => ⟨(h.dom b hb).1,
      domB_congr (st := acc) (st' := eclStep ix acc c) (fun _ _ _ => ⟨rfl, rfl, rfl, rfl⟩) rfl rfl (h.dom b hb).2⟩,
      fun q hq => ?_, h.first⟩
    obtain ⟨-, f2, f3⟩ := h.first c.1 (List.mem_map_of_mem hc)
    rw [cC_of_some (hwf.child (L.cmem c hc)).2.1] at f2 f3
    exact eclStep_bpDom hwf acc c q (L.cmem c hc) f2 f3 (h.bp q hq)
  have D3 : DInv ix sc (above sc pre) []
      (elimParentsUpper ix lv.2 (elimChildrenLower ix lv.1 (triangLevel ix (lv.1.map (·.1)) s))) := by
    rw [epu_eq_fold ix lv.2 _ L.pnd]
    refine List.foldlRecOn lv.2 _ ⟨D2.dom, D2.bp, nofun⟩ fun acc h q hq =>
      ⟨fun b hb => ⟨(h.dom b hb).1, ?_⟩, h.bp, nofun⟩
    have := bpDom_neg (h.bp q (L.pmem q hq))
    exact epuStep_domB hwf acc q b (L.pmem q hq) (h.dom b hb).1 this.1 this.2 (h.dom b hb).2
  refine ⟨fun c hc => ?_, fun q hq => ?_, D3⟩
  · obtain ⟨hb, hDc⟩ := hD.dom c.1 (List.mem_append_right _ (List.mem_map_of_mem hc))
    have hs := hwf.slot c.1 hb
    exact slotPiv_of_domB (by omega) hDc
  · have := bpDom_neg (D2.bp q (L.pmem q hq))
    exact (this.1.trans_lt (neg_neg_of_pos this.2)).ne

theorem trLevels_dinv (hwf : WF ix sc) (rest post : List Lv) (s : St K) (hd : levels sc = rest.reverse ++ post)
    (hD : DInv ix sc (above sc rest.reverse) [] s) :
    PivLevels ix rest s ∧ DInv ix sc sc.roots [] (trLevels ix rest s) := by
  induction rest generalizing post s with
  | nil => exact ⟨trivial, above_nil sc ▸ hD⟩
  | cons lv rest ih =>
    rw [List.reverse_cons] at hd hD
    rw [List.append_assoc] at hd
    obtain ⟨r1, r2, r3⟩ := trLevel_dinv hwf hd s hD
    obtain ⟨i1, i2⟩ := ih _ _ hd r3
    exact ⟨⟨r1, r2, i1⟩, i2⟩

/-- `Dominant` is used only through `DInv … (branchesOf sc) []` (`dInv_of_dominant`), which asks less of the branch-point rows:
`bpDiags ≤ −(weightP + Σ weightC)`, `0 < weightP`, `0 ≤ weightC` -/
theorem pivOK_of_dInv (hwf : WF ix sc) (st : St K) (h0 : DInv ix sc (branchesOf sc) [] st) :
    PivOK ix sc st := by
  obtain ⟨hpiv, hD⟩ := trLevels_dinv hwf (levels sc).reverse [] st (by rw [List.reverse_reverse, List.append_nil])
    (by rw [List.reverse_reverse, hwf.above_levels]; exact h0)
  refine ⟨hpiv, fun r hr => ?_⟩
  -- the slots of the roots are still to be triangulated
  obtain ⟨hrb, hDr⟩ := hD.dom r hr
  have hs := hwf.slot r hrb
  exact slotPiv_of_domB (by omega) hDr

end pass

/-- **no pivot of the triangulation pass vanishes on a cable-like system** -/
theorem pivOK_of_dominant (ix : Idx) (sc : Sched) (st : St K) (hwf : wfB ix sc = true) (hd : Dominant ix sc st) :
    PivOK ix sc st :=
  pivOK_of_dInv (wf_unpack hwf) st (dInv_of_dominant hd)

/-- correctness for cable-like systems, without a pivot hypothesis -/
theorem solve_correct_of_dominant (ix : Idx) (sc : Sched) (st : St K) (hwf : wfB ix sc = true) (hd : Dominant ix sc st) :
    Sat ix sc st (solve ix sc st).solves (fun p => (solve ix sc st).bpSolves p / (solve ix sc st).bpDiags p) :=
  solve_correct ix sc st hwf (pivOK_of_dominant ix sc st hwf hd)

/-- `exSt` with the sign convention of the real arrays: positive weights, `bpDiags = −Σ weights` -/
def exStD : St ℚ := { exSt with weightC := fun _ => 1, weightP := fun _ => 1, bpDiags := fun _ => -3 }

theorem ex_dominant : Dominant exIx exSc exStD :=
  { -- `∀ i, lo < i → i ≤ hi → …` has no `Decidable` instance, `∀ i, lo + 1 ≤ i → i ≤ hi → …` has (`Nat.decidableLoHiLe`)
    lo_nonpos := show ∀ b ∈ branchesOf exSc, ∀ i, exIx.first b + 1 ≤ i → i ≤ exIx.paddedLast b → exStD.lowers i ≤ 0 by
      decide +kernel
    up_nonpos := by decide +kernel
    condC_nonpos := by decide +kernel
    condP_nonpos := by decide +kernel
    wC_pos := by decide +kernel
    wP_pos := by decide +kernel
    bp_diag := by decide +kernel
    row_dom := by decide +kernel }

example : ∃ (ix : Idx) (sc : Sched) (st : St ℚ), wfB ix sc = true ∧ Dominant ix sc st := ⟨exIx, exSc, exStD, ex_wf, ex_dominant⟩

end JaxleyVerif.Model.SolveJaxley
