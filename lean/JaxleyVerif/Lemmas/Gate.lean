/-
The generated scalar kernels of `solver_gate.py` and the `x/(eˣ−1)` helpers over ℝ.

Generated code spells its constants `20.0`, `1.0` (`OfScientific`, see `sci_lit`).  Each kernel gets one equation that removes
them (`save_exp_def`, `efun_def`, …); the other lemmas rest on those equations.

An identity between a generated kernel and a formula is put in the form `_ - _ = 0` BEFORE the definitions are unfolded:
`simp only` cannot close `x - x = 0`, so the normalising step after it (`ring`, `ring_nf`) always runs and closes the goal, whether
the Python source writes the formula as the specification does or with its arithmetic in another order.  Where it is `ring_nf` (the
two sides differ inside an argument of `save_exp` or `Real.exp`), it is `ring_nf (mode := .raw)`: the default mode ends with a pass
that tidies the normal form for a reader, a third to a half of the work, and nobody reads the normal form of a goal that is closed.
-/
import JaxleyVerif.Spec.GateSpec
import JaxleyVerif.Gen.Kernels

namespace JaxleyVerif
open JaxleyVerif.Gen

theorem save_exp_def (x : ℝ) : save_exp x = Real.exp (min x 20) := by
  rw [← lit_tenth 20]; rfl

theorem save_exp_eq {x : ℝ} (h : x ≤ 20) : save_exp x = Real.exp x := by
  rw [save_exp_def, min_eq_left h]

theorem save_exp_clipped {x : ℝ} (h : 20 ≤ x) : save_exp x = Real.exp 20 := by
  rw [save_exp_def, min_eq_right h]

theorem save_exp_pos (x : ℝ) : 0 < save_exp x := by
  rw [save_exp_def]; exact Real.exp_pos _

theorem save_exp_le (x : ℝ) : save_exp x ≤ Real.exp 20 := by
  rw [save_exp_def]; exact Real.exp_le_exp.mpr (min_le_right _ _)

theorem save_exp_mono {a b : ℝ} (hab : a ≤ b) : save_exp a ≤ save_exp b := by
  rw [save_exp_def, save_exp_def]
  exact Real.exp_le_exp.mpr (min_le_min_right _ hab)

theorem save_exp_strictMono {a b : ℝ} (hab : a < b) (hb : b ≤ 20) : save_exp a < save_exp b := by
  rw [save_exp_eq hb, save_exp_eq (hab.le.trans hb)]
  exact Real.exp_lt_exp.mpr hab

theorem one_lt_save_exp {z : ℝ} (hz : 0 < z) : 1 < save_exp z := by
  rw [save_exp_def]; exact Real.one_lt_exp_iff.mpr (lt_min hz (by norm_num))

theorem save_exp_lt_one {z : ℝ} (hz : z < 0) : save_exp z < 1 := by
  rw [save_exp_def]; exact Real.exp_lt_one_iff.mpr ((min_le_left _ _).trans_lt hz)

theorem save_exp_eq_one_iff {z : ℝ} : save_exp z = 1 ↔ z = 0 := by
  refine ⟨fun h => ?_, fun h => by rw [h, save_exp_eq (by norm_num), Real.exp_zero]⟩
  by_contra hz
  rcases lt_or_gt_of_ne hz with h' | h'
  · exact (save_exp_lt_one h').ne h
  · exact (one_lt_save_exp h').ne' h

theorem efun_def (x : ℝ) : efun x = x / (save_exp x - 1) := by
  refine sub_eq_zero.mp ?_
  simp only [efun, lit_one]
  ring

theorem efun_pos {x : ℝ} (hx : x ≠ 0) : 0 < efun x := by
  rw [efun_def]
  rcases lt_or_gt_of_ne hx with h | h
  · exact div_pos_of_neg_of_neg h (sub_neg.mpr (save_exp_lt_one h))
  · exact div_pos h (sub_pos.mpr (one_lt_save_exp h))

/-- a generated `…Defined` conjunct `d ≠ 0.0`, with the denominator `d` brought to the form `e` by `ring` -/
theorem ne_lit_zero_iff {d e : ℝ} (h : d - e = 0) : d ≠ 0.0 ↔ e ≠ 0 := by
  rw [sub_eq_zero.mp h, lit_zero]

theorem efun_defined_iff {x : ℝ} : efun.Defined x ↔ x ≠ 0 := by
  refine (ne_lit_zero_iff (e := save_exp x - 1) ?_).trans (sub_ne_zero.trans save_exp_eq_one_iff.not)
  simp only [lit_one]
  ring

theorem vtrap_def (x y : ℝ) : _vtrap x y = x / (save_exp (x / y) - 1) := by
  refine sub_eq_zero.mp ?_
  simp only [_vtrap, lit_one]
  ring

theorem vtrap_eq_efun {x y : ℝ} (hy : y ≠ 0) : _vtrap x y = y * efun (x / y) := by
  rw [vtrap_def, efun_def, ← mul_div_assoc, mul_div_cancel₀ _ hy]

theorem vtrap_pos {x y : ℝ} (hx : x ≠ 0) (hy : 0 < y) : 0 < _vtrap x y := by
  rw [vtrap_eq_efun hy.ne']
  exact mul_pos hy (efun_pos (div_ne_zero hx hy.ne'))

theorem vtrap_defined_iff {x y : ℝ} (hy : 0 < y) : _vtrap.Defined x y ↔ x ≠ 0 := by
  refine (and_congr (ne_lit_zero_iff (sub_self y))
    (ne_lit_zero_iff (e := save_exp (x / y) - 1) ?_)).trans ?_
  · simp only [lit_one]
    ring
  · rw [sub_ne_zero, ne_eq (save_exp _), save_exp_eq_one_iff, div_eq_zero_iff, not_or]
    exact ⟨fun h => h.2.1, fun h => ⟨hy.ne', h, hy.ne'⟩⟩

/-- Stated through `a`, so that the caller proves `h` by `ring` however the kernel spells its affine argument. -/
theorem affine_ne_zero_iff {a c v : ℝ} (k : ℝ) (hk : k ≠ 0) (h : a = k * (v - c)) : a ≠ 0 ↔ v ≠ c := by
  rw [h, mul_ne_zero_iff, sub_ne_zero]
  exact and_iff_right hk

/-- `a/(a+b)`: the steady state of a two-rate gate, and (with `a = 1`) every logistic of the kernels -/
theorem ratio_mem {a b : ℝ} (ha : 0 < a) (hb : 0 < b) : 0 < a / (a + b) ∧ a / (a + b) < 1 :=
  have hab := add_pos ha hb
  ⟨div_pos ha hab, (div_lt_one hab).mpr (lt_add_of_pos_right a hb)⟩

/-! ### the gate updates: three spellings of one exponential-Euler step

The two reductions to `exponential_euler` end in `ring_nf`, not `ring`: the spellings differ inside `save_exp (…)` and in the
arguments of `exponential_euler`, which are atoms for `ring`. -/

theorem gateClosedForm_def (x dt xinf tau : ℝ) :
    Spec.gateClosedForm x dt xinf tau = xinf + (x - xinf) * Real.exp (-dt / tau) := rfl

theorem exp_neg_div_lt_one {dt tau : ℝ} (hdt : 0 < dt) (htau : 0 < tau) : Real.exp (-dt / tau) < 1 :=
  Real.exp_lt_one_iff.mpr (div_neg_of_neg_of_pos (neg_neg_of_pos hdt) htau)

theorem exponential_euler_eq {x dt xinf tau : ℝ} (hdt : 0 ≤ dt) (htau : 0 < tau) :
    exponential_euler x dt xinf tau = Spec.gateClosedForm x dt xinf tau := by
  have h : -dt / tau ≤ 20 :=
    (div_nonpos_of_nonpos_of_nonneg (neg_nonpos.mpr hdt) htau.le).trans (by norm_num)
  refine sub_eq_zero.mp ?_
  simp only [exponential_euler, gateClosedForm_def, save_exp_eq h, lit_one]
  ring

theorem solve_inf_gate_exponential_eq {x dt sinf tau : ℝ} (hdt : 0 ≤ dt) (htau : 0 < tau) :
    solve_inf_gate_exponential x dt sinf tau = Spec.gateClosedForm x dt sinf tau := by
  rw [← exponential_euler_eq hdt htau]
  refine sub_eq_zero.mp ?_
  simp only [solve_inf_gate_exponential, exponential_euler, lit_one]
  ring_nf (mode := .raw)

theorem tauOf_pos {a b : ℝ} (hab : 0 < a + b) : 0 < Spec.tauOf a b :=
  div_pos sci_lit_pos hab

theorem solve_gate_exponential_eq {x dt a b : ℝ} (hdt : 0 ≤ dt) (hab : 0 < a + b) :
    solve_gate_exponential x dt a b = Spec.gateClosedForm x dt (Spec.xinfOf a b) (Spec.tauOf a b) := by
  rw [← exponential_euler_eq hdt (tauOf_pos hab)]
  refine sub_eq_zero.mp ?_
  simp only [solve_gate_exponential, Spec.xinfOf, Spec.tauOf, lit_one]
  ring_nf (mode := .raw)

theorem gateOK_closedForm {x dt xinf tau : ℝ} (hi0 : 0 ≤ xinf) (hi1 : xinf ≤ 1) (htau : 0 < tau)
    (hdt : 0 < dt) (hx0 : 0 ≤ x) (hx1 : x ≤ 1) :
    Spec.GateOK (Spec.gateClosedForm x dt xinf tau) x dt xinf tau := by
  have he0 := Real.exp_pos (-dt / tau)
  have he1 := exp_neg_div_lt_one hdt htau
  refine ⟨rfl, ?_, Real.exp (-dt / tau), he0, he1, add_sub_cancel_left _ _⟩
  · -- a convex combination of `xinf` and `x` with weights `1 - e` and `e`
    rw [gateClosedForm_def]
    constructor
    · linear_combination mul_nonneg hi0 (sub_nonneg.2 he1.le) + mul_nonneg hx0 he0.le
    · linear_combination mul_nonneg (sub_nonneg.2 hi1) (sub_nonneg.2 he1.le) + mul_nonneg (sub_nonneg.2 hx1) he0.le

theorem gateClosedForm_eq_self_iff {x dt xinf tau : ℝ} (hdt : 0 < dt) (htau : 0 < tau) :
    Spec.gateClosedForm x dt xinf tau = x ↔ x = xinf := by
  rw [gateClosedForm_def]
  constructor
  · intro h
    exact sub_eq_zero.mp ((mul_right_eq_self₀.mp (eq_sub_of_add_eq' h)).resolve_left
      (exp_neg_div_lt_one hdt htau).ne)
  · rintro rfl; ring

end JaxleyVerif
