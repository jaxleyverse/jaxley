/-
Small facts, on core Lean only, that several modules rest on.  Lists: a key that occurs once determines its entry (the tables of the
models are lists searched by a key: channel states, schedule pairs, SWC points), membership after later duplicates are dropped, entry
`b` of block `a` of a concatenation (the flat arrays of the connectivity builders and of the cells of a network), a guarded write.
Results: how `h : f … = .ok a` (or `= some a`) of a partial function of the models is taken apart (a guard, two accepting branches,
a refusing branch of an `Option`, a `do` step, a `mapM`).
-/
namespace JaxleyVerif

theorem eq_of_nodup_map {α κ : Type} {key : α → κ} {l : List α} (hn : (l.map key).Nodup) {a b : α}
    (ha : a ∈ l) (hb : b ∈ l) (h : key a = key b) : a = b :=
  -- different entries have different keys, whichever comes first
  have hp := List.pairwise_map.mp hn
  List.Pairwise.forall_of_forall_of_flip (R := fun a b => key a = key b → a = b) (fun _ _ _ => rfl)
    (hp.imp fun hne e => absurd e hne) (hp.imp fun hne e => absurd e.symm hne) ha hb h

theorem find?_key_of_nodup {α κ : Type} [BEq κ] [LawfulBEq κ] {key : α → κ} {l : List α} (hn : (l.map key).Nodup)
    {a : α} (ha : a ∈ l) : l.find? (fun x => key x == key a) = some a := by
  cases h : l.find? (fun x => key x == key a) with
  | none => exact absurd (List.find?_eq_none.mp h a ha) (fun hne => hne (beq_self_eq_true _))
  | some b =>
    exact congrArg some (eq_of_nodup_map hn (List.mem_of_find?_eq_some h) ha
      (eq_of_beq (List.find?_some (p := fun x => key x == key a) h)))

/-- one step of keeping first occurrences only (`Model.Ops.dedup`, `Model.Views.distinct`): `p` is "differs from `y`" -/
theorem mem_cons_filter_ne {α : Type} [DecidableEq α] {p : α → Bool} {x y : α} {l l' : List α}
    (hp : ∀ z, p z = true ↔ z ≠ y) (ih : x ∈ l' ↔ x ∈ l) : x ∈ y :: l'.filter p ↔ x ∈ y :: l := by
  rw [List.mem_cons, List.mem_cons, List.mem_filter, ih, hp]
  exact ⟨fun h => h.imp_right And.left, fun h => (Decidable.em (x = y)).imp_right fun hne => ⟨h.resolve_left hne, hne⟩⟩

theorem getElem?_flatMap_offset {α β : Type} (f : α → List β) :
    ∀ (l : List α) (a b : Nat), (∀ x, l[a]? = some x → b < (f x).length) →
      (l.flatMap f)[((l.take a).flatMap f).length + b]? = l[a]?.bind fun x => (f x)[b]?
  | [], _, _, _ => rfl
  | x :: xs, 0, b, h => by
    rw [List.take_zero, List.flatMap_nil, List.length_nil, Nat.zero_add, List.flatMap_cons, List.getElem?_cons_zero,
      Option.bind_some]
    exact List.getElem?_append_left (h x rfl)
  | x :: xs, a + 1, b, h => by
    rw [List.take_succ_cons, List.flatMap_cons, List.flatMap_cons, List.length_append, Nat.add_assoc,
      List.getElem?_append_right (Nat.le_add_right _ _), Nat.add_sub_cancel_left, List.getElem?_cons_succ]
    exact getElem?_flatMap_offset f xs a b h

theorem ite_lt_set {α : Type} (a : List α) (i : Nat) (v : α) : (if i < a.length then a.set i v else a) = a.set i v := by
  split
  · rfl
  · exact (List.set_eq_of_length_le (Nat.le_of_not_gt ‹_›)).symm

/-! Applied to `h : f … = .ok a` (`= some a` for the third), the next three lemmas are matched against the unfolded body by
unification, which is much cheaper to check than `split at h` on a body of that size. -/

theorem of_guard_eq_ok {ε α : Type} {c : Prop} [Decidable c] {e : ε} {x : Except ε α} {a : α}
    (h : (if c then .error e else x) = .ok a) : ¬ c ∧ x = .ok a := by
  split at h
  · cases h
  · exact ⟨‹_›, h⟩

theorem of_ite_ok_eq_ok {ε α : Type} {c : Prop} [Decidable c] {a b r : α}
    (h : (if c then .ok a else .ok b : Except ε α) = .ok r) : c ∧ a = r ∨ ¬ c ∧ b = r := by
  split at h
  · exact Or.inl ⟨‹_›, Except.ok.inj h⟩
  · exact Or.inr ⟨‹_›, Except.ok.inj h⟩

theorem of_ite_none_eq_some {α : Type} {c : Prop} [Decidable c] {x a : α}
    (h : (if c then none else some x) = some a) : ¬ c ∧ x = a := by
  split at h
  · cases h
  · exact ⟨‹_›, Option.some.inj h⟩

theorem bind_eq_ok {ε α β : Type} {x : Except ε α} {f : α → Except ε β} {b : β} :
    (x >>= f) = .ok b ↔ ∃ a, x = .ok a ∧ f a = .ok b := by
  cases x with
  | error e => exact ⟨fun h => (nomatch h), fun ⟨_, h, _⟩ => (nomatch h)⟩
  | ok a => exact ⟨fun h => ⟨a, rfl, h⟩, fun ⟨_, h, hf⟩ => Except.ok.inj h ▸ hf⟩

theorem mapM_eq_ok {α β ε : Type} {f : α → Except ε β} {l : List α} {ps : List β} (h : l.mapM f = .ok ps) :
    ps.length = l.length ∧ ∀ (i : Nat) a b, l[i]? = some a → ps[i]? = some b → f a = .ok b := by
  induction l generalizing ps with
  | nil =>
    cases h
    exact ⟨rfl, fun i a b ha => nomatch ha⟩
  | cons a l ih =>
    rw [List.mapM_cons] at h
    obtain ⟨b, hfa, h⟩ := bind_eq_ok.mp h
    obtain ⟨bs, hl, h⟩ := bind_eq_ok.mp h
    cases h
    refine ⟨congrArg Nat.succ (ih hl).1, fun i a' b' ha hb => ?_⟩
    cases i with
    | zero =>
      cases ha
      cases hb
      exact hfa
    | succ i => exact (ih hl).2 i a' b' ha hb

end JaxleyVerif
