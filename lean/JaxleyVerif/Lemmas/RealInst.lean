/-
ℝ as an instance of the scalar classes of `Prelude/Scalar.lean` (`Transc`, `HasPi`) with Mathlib's functions, and what the decimal
literals of the generated code denote there (`sci_lit`): the theorems about generated kernels (C01, C03–C05, C14, C15, C17) are over it.
-/
import Mathlib.Analysis.SpecialFunctions.Log.Basic
import Mathlib.Analysis.SpecialFunctions.Trigonometric.Basic
import JaxleyVerif.Prelude.Scalar

namespace JaxleyVerif

noncomputable instance instTranscReal : Transc ℝ where
  exp := Real.exp
  log := Real.log
  log1p := fun x => Real.log (1 + x)
  tanh := Real.tanh
  sqrt := Real.sqrt
  pi := Real.pi

noncomputable instance instHasPiReal : HasPi ℝ := ⟨Real.pi⟩
@[simp] theorem haspi_real : (HasPi.pi : ℝ) = Real.pi := rfl

@[simp] theorem transc_exp_real (x : ℝ) : Transc.exp x = Real.exp x := rfl
@[simp] theorem transc_log_real (x : ℝ) : Transc.log x = Real.log x := rfl
@[simp] theorem transc_log1p_real (x : ℝ) : Transc.log1p x = Real.log (1 + x) := rfl
@[simp] theorem transc_tanh_real (x : ℝ) : Transc.tanh x = Real.tanh x := rfl
@[simp] theorem transc_sqrt_real (x : ℝ) : Transc.sqrt x = Real.sqrt x := rfl
@[simp] theorem transc_pi_real : (Transc.pi : ℝ) = Real.pi := rfl

/-- `ring` must not see a raw scientific literal: with `Mathlib.Tactic.NormNum.OfScientific` loaded (as it is here, through the
analysis imports) it builds an ill-typed proof term on `4.0 * e = e * 4.0` over ℝ.  `simp only [sci_lit]` removes all literals of
a goal at once. -/
theorem sci_lit (m e : ℕ) : (OfScientific.ofScientific m true e : ℝ) = (m : ℝ) / 10 ^ e := by
  rw [NNRatCast.ofScientific_eq_ite, if_pos rfl, NNRat.cast_divNat]
  norm_cast

theorem sci_lit_pos {m e : ℕ} [NeZero m] : 0 < (OfScientific.ofScientific m true e : ℝ) := by
  rw [sci_lit]
  exact div_pos (Nat.cast_pos.mpr (NeZero.pos m)) (pow_pos (by norm_num) e)

theorem sci_lit_ne_zero {m e : ℕ} [NeZero m] : (OfScientific.ofScientific m true e : ℝ) ≠ 0 := sci_lit_pos.ne'

/-- the generated code writes `40.0` where the statements about it write `40` -/
theorem lit_tenth (n : ℕ) [n.AtLeastTwo] : (OfScientific.ofScientific (n * 10) true 1 : ℝ) = OfNat.ofNat n := by
  rw [sci_lit, Nat.cast_mul, pow_one, Nat.cast_ofNat]
  exact mul_div_cancel_right₀ _ (by norm_num)

theorem lit_one : (1.0 : ℝ) = 1 := by norm_num
theorem lit_zero : (0.0 : ℝ) = 0 := by norm_num

end JaxleyVerif
