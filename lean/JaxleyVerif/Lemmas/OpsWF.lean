/-
The keyed tables of `Model.Ops` (core Lean only).  Every write to `cols`, `flags`, `groups`, `ext` goes through one function, `alter`
(the deleting operations filter them); what an update keeps is `forall_mem_alter`, what it stores `find?_alter`.  Membership in the
lists the model builds is given as `↔`.  `Inv` is `WF` without the side conditions on names, which is what makes it inductive (see
there); it holds at `init`.
-/
import JaxleyVerif.Model.Ops
import JaxleyVerif.Lemmas.Lists

namespace JaxleyVerif.Model.Ops

/-- the update written out in `writeCol`, `writeFlag`, `addToGroup` and `externalInput` -/
def alter {β : Type} (l : List (String × β)) (k : String) (f : β → β) (d : β) : List (String × β) :=
  if l.any (·.1 == k) then l.map (fun p => if p.1 == k then (p.1, f p.2) else p) else l ++ [(k, d)]

theorem forall_mem_alter {β : Type} {l : List (String × β)} {k : String} {f : β → β} {d : β} {P : String × β → Prop}
    (hl : ∀ p ∈ l, P p) (hf : ∀ b, (k, b) ∈ l → P (k, f b)) (hd : P (k, d)) : ∀ p ∈ alter l k f d, P p := by
  intro p hp
  unfold alter at hp
  split at hp
  · obtain ⟨q, hq, rfl⟩ := List.mem_map.mp hp
    split
    · rename_i hk
      obtain rfl : q.1 = k := beq_iff_eq.mp hk
      exact hf q.2 hq
    · exact hl q hq
  · rcases List.mem_append.mp hp with hp | hp
    · exact hl p hp
    · exact List.mem_singleton.mp hp ▸ hd

theorem find?_map_key {β : Type} (l : List (String × β)) (k : String) (f : β → β) :
    (l.map (fun p => if p.1 == k then (p.1, f p.2) else p)).find? (·.1 == k) =
      (l.find? (·.1 == k)).map (fun p => (p.1, f p.2)) := by
  induction l with
  | nil => rfl
  | cons q qs ih =>
    cases hq : (q.1 == k) with
    | true => simp only [List.map_cons, List.find?_cons, hq, if_true, Option.map_some]
    | false =>
      simp only [List.map_cons, List.find?_cons, hq, Bool.false_eq_true, if_false]
      exact ih

theorem find?_alter {β : Type} (l : List (String × β)) (k : String) (f : β → β) (d : β) :
    ((alter l k f d).find? (·.1 == k)).map (·.2) = some (((l.find? (·.1 == k)).map (fun p => f p.2)).getD d) := by
  unfold alter
  by_cases h : l.any (·.1 == k) = true
  · obtain ⟨p, hp⟩ := Option.isSome_iff_exists.mp (List.find?_isSome.mpr (List.any_eq_true.mp h))
    rw [if_pos h, find?_map_key, hp]
    rfl
  · have hnone : l.find? (·.1 == k) = none :=
      List.find?_eq_none.mpr fun x hx hk => h (List.any_eq_true.mpr ⟨x, hx, hk⟩)
    rw [if_neg h, List.find?_append, hnone, Option.none_or, List.find?_singleton, if_pos (beq_self_eq_true k)]
    rfl

theorem writeCol_eq (n : Nat) (cols : List (String × List (Option Nat))) (k : String) (rows : List Nat) (v : Option Nat) :
    writeCol n cols k rows v =
      alter cols k (fun c => (List.range n).map (fun i => if rows.contains i then v else c.getD i none))
        ((List.range n).map (fun i => if rows.contains i then v else (List.replicate n none).getD i none)) := rfl

theorem writeFlag_eq (n : Nat) (flags : List (String × List Bool)) (k : String) (rows : List Nat) (v : Bool) :
    writeFlag n flags k rows v =
      alter flags k (fun c => (List.range n).map (fun i => if rows.contains i then v else c.getD i false))
        ((List.range n).map (fun i => if rows.contains i then v else (List.replicate n false).getD i false)) := rfl

/-- what `writeCol` / `writeFlag` leave at row `i` of the column they rewrite -/
theorem getD_updRow {α : Type} {n i : Nat} {rows : List Nat} {v d : α} {col : List α} (hi : i < n) :
    ((List.range n).map (fun j => if rows.contains j then v else col.getD j d)).getD i d
      = if rows.contains i then v else col.getD i d := by
  rw [List.getD_eq_getElem?_getD, List.getElem?_map, List.getElem?_range hi]
  rfl

/-! `writeCol` / `writeFlag` keep every column at length `n`: the rewritten column is a map over `List.range n`
(which is also why no operation needs its rows to be `< n` for this). -/

theorem writeCol_len {n : Nat} {cols : List (String × List (Option Nat))} {k : String} {rows : List Nat} {v : Option Nat}
    (h : ∀ p ∈ cols, p.2.length = n) : ∀ p ∈ writeCol n cols k rows v, p.2.length = n := by
  rw [writeCol_eq]
  exact forall_mem_alter h (fun _ _ => (List.length_map _).trans List.length_range) ((List.length_map _).trans List.length_range)

theorem writeFlag_len {n : Nat} {flags : List (String × List Bool)} {k : String} {rows : List Nat} {v : Bool}
    (h : ∀ p ∈ flags, p.2.length = n) : ∀ p ∈ writeFlag n flags k rows v, p.2.length = n := by
  rw [writeFlag_eq]
  exact forall_mem_alter h (fun _ _ => (List.length_map _).trans List.length_range) ((List.length_map _).trans List.length_range)

theorem foldl_writeCol_len {α : Type} {n : Nat} {key : α → String} {rows : α → List Nat} {v : α → Option Nat}
    {l : List α} {cols : List (String × List (Option Nat))} (h : ∀ p ∈ cols, p.2.length = n) :
    ∀ p ∈ l.foldl (fun cs a => writeCol n cs (key a) (rows a) (v a)) cols, p.2.length = n := by
  induction l generalizing cols with
  | nil => exact h
  | cons a l ih => exact ih (writeCol_len h)

/-- how `insert` registers a channel and its current: appended unless already there -/
theorem mem_ite_append {α : Type} {b : Prop} [Decidable b] {l : List α} {a x : α} :
    x ∈ (if b then l else l ++ [a]) ↔ x ∈ l ∨ ¬ b ∧ x = a := by
  by_cases hb : b
  · rw [if_pos hb]
    exact (or_iff_left fun h => h.1 hb).symm
  · rw [if_neg hb, List.mem_append, List.mem_singleton, and_iff_right hb]

/-- `connect` registers a synapse type with the branches the other way round -/
theorem mem_ite_append' {α : Type} {b : Prop} [Decidable b] {l : List α} {a x : α} (h : x ∈ l) :
    x ∈ (if b then l ++ [a] else l) := by
  split
  · exact List.mem_append_left _ h
  · exact h

theorem mem_nodeStates {m : Mod} {s : String} :
    s ∈ nodeStates m ↔ (∃ c ∈ m.chans, s ∈ c.states.map (·.1)) ∨ s = "v" ∨ s = "i" ∨ s ∈ m.currents := by
  simp only [nodeStates, List.mem_append, List.mem_flatMap, List.mem_cons, List.not_mem_nil, or_false, or_assoc]

theorem mem_edgeStates {m : Mod} {s : String} :
    s ∈ edgeStates m ↔ ∃ sd ∈ m.syns, s ∈ sd.states.map (·.1) ∨ s = "i_" ++ sd.name := by
  simp only [edgeStates, List.mem_append, List.mem_flatMap, List.mem_map, and_or_left, exists_or, eq_comm (a := s)]

theorem mem_insertSorted {x y : Nat} {l : List Nat} : y ∈ insertSorted x l ↔ y = x ∨ y ∈ l := by
  induction l with
  | nil => exact List.mem_singleton.trans (or_iff_left List.not_mem_nil).symm
  | cons z zs ih =>
    unfold insertSorted
    split
    · exact List.mem_cons
    · split
      · rename_i h
        obtain rfl : x = z := beq_iff_eq.mp h
        rw [List.mem_cons, or_self_left]
      · rw [List.mem_cons, ih, List.mem_cons, or_left_comm]

theorem pairwise_insertSorted {x : Nat} {l : List Nat} (h : l.Pairwise (· < ·)) : (insertSorted x l).Pairwise (· < ·) := by
  induction l with
  | nil => exact List.pairwise_singleton _ _
  | cons y ys ih =>
    obtain ⟨hy, hys⟩ := List.pairwise_cons.mp h
    unfold insertSorted
    split
    · rename_i hxy
      exact List.pairwise_cons.mpr ⟨fun z hz => (List.mem_cons.mp hz).elim (· ▸ hxy) fun hz => Nat.lt_trans hxy (hy z hz), h⟩
    · split
      · exact h
      · rename_i h1 h2
        refine List.pairwise_cons.mpr ⟨fun z hz => ?_, ih hys⟩
        rcases mem_insertSorted.mp hz with rfl | hz
        · exact Nat.lt_of_le_of_ne (Nat.le_of_not_lt h1) fun e => h2 (beq_iff_eq.mpr e.symm)
        · exact hy z hz

theorem mem_sortedUnion {y : Nat} {a b : List Nat} : y ∈ sortedUnion a b ↔ y ∈ a ∨ y ∈ b := by
  suffices h : ∀ l acc : List Nat, y ∈ l.foldl (fun acc x => insertSorted x acc) acc ↔ y ∈ l ∨ y ∈ acc from
    (h (a ++ b) []).trans ((or_iff_left List.not_mem_nil).trans List.mem_append)
  intro l
  induction l with
  | nil => simp
  | cons x xs ih => intro acc; rw [List.foldl_cons, ih, mem_insertSorted, List.mem_cons, or_assoc, or_left_comm]

theorem mem_dedup {x : Nat × String} : ∀ {l : List (Nat × String)}, x ∈ dedup l ↔ x ∈ l
  | [] => Iff.rfl
  | _ :: _ => mem_cons_filter_ne (fun _ => bne_iff_ne) mem_dedup

theorem n_deleteExternal (m : Mod) (rows es : List Nat) (key : String) : (deleteExternal m rows es key).n = m.n := rfl
theorem n_makeTrainable (m : Mod) (key : String) (groups : List (List Nat)) : (makeTrainable m key groups).n = m.n := rfl
theorem n_deleteTrainablesAll (m : Mod) : (deleteTrainablesAll m).n = m.n := rfl
theorem n_connect (m : Mod) (pre post : List Nat) (s : SynDesc) : (connect m pre post s).n = m.n := rfl
theorem n_init (n : Nat) (geom : List (String × Nat)) : (init n geom).n = n := rfl

/-- the invariant that is proved by induction over histories: as `WF`, but EVERY stored recording / input index is a row index,
whatever its name.  `WF` alone is not inductive: it bounds such an index only while its name is a node state, and `insert` makes
new names node states (`n = 1`, `recs = [(5, "s")]`, no channels is `WF`; after inserting a channel with a state `"s"` it is
not). -/
structure Inv (m : Mod) : Prop where
  colLen : ∀ p ∈ m.cols, p.2.length = m.n
  flagLen : ∀ p ∈ m.flags, p.2.length = m.n
  recIdx : ∀ r ∈ m.recs, r.1 < m.n
  extIdx : ∀ p ∈ m.ext, ∀ r ∈ p.2, r.1 < m.n
  grpIdx : ∀ g ∈ m.groups, ∀ r ∈ g.2, r < m.n
  edgeIdx : ∀ e ∈ m.edges, e.pre < m.n ∧ e.post < m.n

theorem Inv.wf {m : Mod} (h : Inv m) : WF m :=
  ⟨h.colLen, h.flagLen, fun r hr _ => h.recIdx r hr, fun p hp _ => h.extIdx p hp, h.grpIdx, h.edgeIdx⟩

theorem inv_init (n : Nat) (geom : List (String × Nat)) : Inv (init n geom) where
  colLen := by
    intro p hp
    obtain ⟨kv, _, rfl⟩ := List.mem_map.mp hp
    exact List.length_replicate
  flagLen := List.forall_mem_nil _
  recIdx := List.forall_mem_nil _
  extIdx := List.forall_mem_nil _
  grpIdx := List.forall_mem_nil _
  edgeIdx := List.forall_mem_nil _

theorem wf_init (n : Nat) (geom : List (String × Nat)) : WF (init n geom) := (inv_init n geom).wf

end JaxleyVerif.Model.Ops
